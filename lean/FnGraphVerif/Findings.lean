/-
  Kernel-checked witnesses of defects of the PINNED sources.

  C05: the pinned `stream_internal` closure (`drain = false`: one `poll_recv` of the done channel per
  poll) loses a wake-up.  Graph `a → c`, `b → c` (nodes 0, 1, 2; edges 0→2, 1→2; initial
  predecessor counts `[0, 0, 2]`; the preload is `[1, 0]`, Topo order).  Actions: poll (yields b), poll (yields a), poll (`Pending`,
  registers both wakers), drop a (consumes the done waker, wakes), drop b (no waker left, no wake),
  poll: receives only `a`, `c` still has count 1, the receive was `Ready` so NO waker is
  re-registered on the done channel, the ready channel is empty → `Pending`.  Now the consumer is
  parked, `b` sits in the done channel, `c` has all its predecessors dropped, and nobody will ever
  wake the task: `lastPending ∧ needsPoll ∧ wake = false`.
-/
import FnGraphVerif.Proofs.StreamInv
namespace FG

/-- `a → c`, `b → c` (the same configuration as `exJoin_I`) -/
def pinnedJoin : Cfg :=
  { D := { n := 3, edges := [⟨0, 2, .logic⟩, ⟨1, 2, .logic⟩] }, counts0 := [0, 0, 2] }

def pinnedActions : List SAction := [.poll, .poll, .poll, .drop 0, .drop 1, .poll]

/-- the state the pinned closure is in after `pinnedActions` -/
def pinnedStuck : SState :=
  { counts := [0, 0, 1], readyQ := [], doneQ := [1], txOpen := true, fnsRemaining := 1,
    doneRxWaker := false, readyRxWaker := true, wake := false, yielded := [1, 0], live := [],
    droppedRefs := [0, 1], released := [0], streamDropped := false, lastPending := true,
    im := { hp := true } }

theorem pinned_run : srun pinnedJoin false (sinit pinnedJoin) pinnedActions = some pinnedStuck := by decide

/-- **C05 finding** (concrete form): parked, node 2 not yielded, all its predecessors dropped, the
    stream alive — and no wake-up signalled, no waker registered on the non-empty done channel. -/
theorem pinned_lost_wakeup_concrete :
    pinnedStuck.lastPending = true ∧ pinnedStuck.streamDropped = false ∧
    (2 < pinnedJoin.n ∧ 2 ∉ pinnedStuck.yielded ∧ ∀ p ∈ parents pinnedJoin.D 2, p ∈ pinnedStuck.droppedRefs) ∧
    pinnedStuck.wake = false ∧ pinnedStuck.doneRxWaker = false ∧ pinnedStuck.doneQ ≠ [] ∧
    pinnedStuck.panic = false := by decide

theorem pinned_reachable : SReachable pinnedJoin false pinnedStuck :=
  sreachable_srun SReachable.init pinned_run

/-- **C05 finding**: the statement of `no_lost_wakeup` is FALSE for the pinned closure (`drain = false`) -/
theorem pinned_violates_no_lost_wakeup :
    ¬ ∀ (c : Cfg) (s : SState), GoodCfg c → SReachable c false s → s.streamDropped = false →
        s.lastPending = true → needsPoll c s → s.wake = true := by
  intro h
  have := h pinnedJoin pinnedStuck exJoin_good_I pinned_reachable (by decide) (by decide)
    ⟨2, pinned_lost_wakeup_concrete.2.2.1⟩
  exact absurd this (by decide)

/-- the same schedule under the fixed closure (`drain = true`): the last poll drains both ids and yields `c` -/
example : (srun pinnedJoin true (sinit pinnedJoin) pinnedActions).map (fun s => (s.yielded, s.lastPending))
    = some ([1, 0, 2], false) := by decide

/-- in `pinnedStuck` no `FnRef` is live, hence (`sdrop_iff`) no `drop` is enabled: nothing is left
    that could wake the consumer -/
example : pinnedStuck.live = [] := by decide

end FG
