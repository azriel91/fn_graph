/-
  Every micro step of the interruptible stream preserves the simulation
  relation `MITr` of `Proofs/MicroIntrSim.lean`; hence every reachable micro state is simulated by an
  atomic run.
-/
import FnGraphVerif.Proofs.MicroIntrSim
namespace FG

variable {c : Cfg} {x x' : MIState}

/-- a drop at ANY program point of the micro poll is the same drop in the atomic run: before the
    atomic poll it commutes with the drain iterations done so far (`RelStar.dropNW`), after it with
    what the micro poll still has to do (`finS_sdrop`, `finR_sdrop`) -/
theorem MITrS.drop (hc : GoodCfg c) {s t' : SState} {seen : Bool} {n : Nat} {last : Option (Out × Option Nat)}
    {f : Nat} (hg : SReachG c s seen n last) (hsim : MITrS c x s seen n last)
    (hd : sdrop c x.m.s f = some t') :
    ∃ s', sdrop c s f = some s' ∧ MITrS c { x with m := { x.m with s := t' } } s' seen n last := by
  cases hsim with
  | idle hw w hms hseen hn hret =>
    rw [hms] at hd
    obtain ⟨s', hd', rfl⟩ := adj_sdrop_some hd
    refine ⟨s', hd', MITrS.idle hw w ?_ hseen hn hret⟩
    show adj s' w s.im = _
    rw [(sdrop_spec hd').im]
  | checked hw p w hf hms hseen hsig hn hret =>
    rw [hms] at hd
    obtain ⟨s', hd', rfl⟩ := adj_sdrop_some hd
    have hs' := sdrop_spec hd'
    refine ⟨s', hd', MITrS.checked hw p w
      ⟨hs'.streamDropped.trans hf.notDropped, hs'.im ▸ hf.polls⟩ ?_ hseen hsig hn hret⟩
    show adj s' w (sentOr (interruptCheck c.strat s.im) p) = _
    rw [hs'.im]
  | draining hw hpc p a w hf hrel hms hseen hsig hn hret =>
    rw [hms] at hd
    obtain ⟨a', hda, rfl⟩ := adj_sdrop_some hd
    have hfr := hrel.sameOuter
    have hfa : f ∈ a.live := (sdrop_spec hda).mem
    have hfs : f ∈ s.live := by rw [hfr.live] at hfa; exact hfa
    have hroom : s.doneQ.length < c.cap := (sinv_reachable hc hg.reachable).core.doneRoom hfs
    rw [sdrop_sent hfa (hfr.streamDropped.trans hf.notDropped) (Nat.lt_of_le_of_lt hrel.len hroom)] at hda
    cases hda
    refine ⟨_, sdrop_sent hfs hf.notDropped hroom, MITrS.draining hw hpc p (dropNW a f) (a.doneRxWaker || w)
      ⟨hf.notDropped, hf.polls⟩ (hrel.dropNW f) ?_ hseen hsig hn hret⟩
    show adj (adj (dropNW a f) a.doneRxWaker a.im) w _ = _
    rw [adj_adj]
    rfl
  | ready hw hpc w hms hseen hn hret =>
    have h1 := finS_sdrop hd
    rw [hms] at h1
    obtain ⟨s', hd', h2⟩ := adj_sdrop_some h1
    obtain ⟨h3, h4⟩ := sReadyHalf_sdrop hd
    refine ⟨s', hd', MITrS.ready hw hpc w ?_ hseen ?_ ?_⟩
    · show finS t' = adj s' w s'.im
      rw [h2, (sdrop_spec hd').im]
    · show n = x.yAfter + if x.pollSeen = true then (sReadyHalf t').1.yielded.length - t'.yielded.length else 0
      rw [(sdrop_spec h3).yielded, (sdrop_spec hd).yielded]
      exact hn
    · show last = some ((pollNextPost t'.im (underOf (sReadyHalf t').2)).2, itemOf (sReadyHalf t').2)
      rw [h4, (sdrop_spec hd).im]
      exact hret
  | returned hw r hr w hms hseen hn hret =>
    have h1 := finR_sdrop r hd
    rw [hms] at h1
    obtain ⟨s', hd', h2⟩ := adj_sdrop_some h1
    refine ⟨s', hd', MITrS.returned hw r hr w ?_ hseen hn ?_⟩
    · show finR t' r = adj s' w s'.im
      rw [h2, (sdrop_spec hd').im]
    · show last = some ((pollNextPost t'.im (underOf r)).2, itemOf r)
      rw [(sdrop_spec hd).im]
      exact hret

/-- a signal before the atomic poll (`checked`, `draining`: this poll's `interruptCheck` is over) is
    remembered and the atomic run stays; elsewhere the atomic run takes the same `interrupt` -/
theorem MITrS.interrupt {s : SState} {seen : Bool} {n : Nat} {last : Option (Out × Option Nat)}
    (hsim : MITrS c x s seen n last) {x' : MIState}
    (hx' : x' = { x with m := { x.m with s := { x.m.s with im := { x.m.s.im with sent := true } } }, sigSeen := true }) :
    MITrS c x' s seen n last ∨ MITrS c x' { s with im := { s.im with sent := true } } true n last := by
  subst hx'
  cases hsim with
  | idle hw w hms hseen hn hret =>
    refine Or.inr (MITrS.idle hw w ?_ rfl hn hret)
    rw [hms]; rfl
  | checked hw p w hf hms hseen hsig hn hret =>
    refine Or.inl (MITrS.checked hw true w hf ?_ hseen ?_ hn hret)
    · rw [hms]
      show adj s w { sentOr (interruptCheck c.strat s.im) p with sent := true } = _
      rw [sentOr_sent]
    · exact (Bool.or_true x.pollSeen).symm
  | draining hw hpc p a w hf hrel hms hseen hsig hn hret =>
    refine Or.inl (MITrS.draining hw hpc true a w hf hrel ?_ hseen ?_ hn hret)
    · rw [hms]
      show adj a w { sentOr (interruptCheck c.strat s.im) p with sent := true } = _
      rw [sentOr_sent]
    · exact (Bool.or_true x.pollSeen).symm
  | ready hw hpc w hms hseen hn hret =>
    refine Or.inr (MITrS.ready hw hpc w ?_ rfl ?_ ?_)
    · show finS { x.m.s with im := { x.m.s.im with sent := true } } = _
      rw [finS_sent, hms]
      rfl
    · show n = x.yAfter + if x.pollSeen = true then
        (sReadyHalf { x.m.s with im := { x.m.s.im with sent := true } }).1.yielded.length - x.m.s.yielded.length else 0
      rw [sReadyHalf_setIm x.m.s]
      exact hn
    · show last = some ((pollNextPost { x.m.s.im with sent := true }
          (underOf (sReadyHalf { x.m.s with im := { x.m.s.im with sent := true } }).2)).2,
        itemOf (sReadyHalf { x.m.s with im := { x.m.s.im with sent := true } }).2)
      rw [sReadyHalf_setIm x.m.s, pollNextPost_sent]
      exact hret
  | returned hw r hr w hms hseen hn hret =>
    refine Or.inr (MITrS.returned hw r hr w ?_ rfl hn ?_)
    · show finR { x.m.s with im := { x.m.s.im with sent := true } } r = _
      rw [finR_sent, hms]
      rfl
    · show last = some ((pollNextPost { x.m.s.im with sent := true } (underOf r)).2, itemOf r)
      rw [pollNextPost_sent]
      exact hret

theorem mitr_step (hc : GoodCfg c) {a : MIAction} (h : MITr c x) (hs : mistep? c x a = some x') : MITr c x' := by
  obtain ⟨s, seen, n, last, hg, hsim⟩ := h
  cases a with
  | check =>
    obtain ⟨hw0, hsd, hcase⟩ := mistep_check_iff.mp hs
    obtain ⟨w, hms, hseen, hn, hret⟩ := hsim.of_idle hw0
    rw [hms] at hsd
    rw [show x.m.s.im = s.im by rw [hms]; rfl] at hcase
    rcases hcase with ⟨hpi, rfl⟩ | ⟨hpi, rfl⟩
    · refine ⟨s, seen, n, last, hg, MITrS.checked rfl false w ⟨hsd, hpi⟩ ?_ hseen ?_ hn hret⟩
      · unfold afterCheck; rw [hms]; rfl
      · exact (Bool.or_false x.sigSeen).symm
    · -- the wrapper answers by itself: the atomic poll happens here and yields nothing
      have e := sipoll_outer c true s hpi
      have hg' := hg.poll hsd
      rw [show (sipoll c true s).1.yielded = s.yielded by rw [e], Nat.sub_self, ite_self, Nat.add_zero] at hg'
      refine ⟨_, seen, n, _, hg', MITrS.idle hw0 false ?_ hseen hn ?_⟩
      · unfold afterCheckOuter; rw [hms, e]; rfl
      · unfold afterCheckOuter; rw [hms, e]; rfl
  | pollBegin =>
    obtain ⟨hw0, m', hm, rfl⟩ := mistep_pollBegin_iff.mp hs
    obtain ⟨_, _, rfl⟩ := mstep_pollBegin_iff.mp hm
    cases hsim with
    | checked _ p w hf hms hseen hsig hn hret =>
      refine ⟨s, seen, n, last, hg, MITrS.draining rfl rfl p _ false hf (RelStar.refl _) ?_ hseen hsig hn hret⟩
      rw [hms]
      rfl
    | _ hw => rw [hw0] at hw; cases hw
  | drainStep =>
    obtain ⟨hw0, m', hm, rfl⟩ := mistep_drainStep_iff.mp hs
    obtain ⟨hpc0, hcase⟩ := mstep_drainStep_iff.mp hm
    cases hsim with
    | draining _ _ p a w hf hrel hms hseen hsig hn hret =>
      have hq : x.m.s.doneQ = a.doneQ := by rw [hms]; rfl
      rcases hcase with ⟨y, rest, hy, rfl⟩ | ⟨hy, rfl⟩
      · -- one more iteration of the drain loop
        refine ⟨s, seen, n, last, hg, MITrS.draining hw0 hpc0 p (sRelease c a y rest) w hf
          (RelStar.step hrel (hq ▸ hy)) ?_ hseen hsig hn hret⟩
        show sRelease c x.m.s y rest = _
        rw [hms, adj_sRelease]
      · obtain ⟨hpoll, hans, hyl⟩ := sipoll_of_drained hf.polls hrel (hq ▸ hy) w (sentOr (interruptCheck c.strat s.im) p)
        have hms' : sReg x.m.s = adj (sReg a) w (sentOr (interruptCheck c.strat s.im) p) := by rw [hms, adj_sReg]
        have hg1 := hg.poll hf.notDropped
        have hcount : n + (if seen = true then (sipoll c true s).1.yielded.length - s.yielded.length else 0) =
            x.yAfter + if x.pollSeen = true then
              (sReadyHalf (sReg x.m.s)).1.yielded.length - (sReg x.m.s).yielded.length else 0 := by
          rw [hms', ← hyl, hn, hseen]
        -- a signal that arrived during the drain (`p`) was not seen by this poll: it commutes to after it
        refine ⟨_, _, _, _, hg1.sentOr p, MITrS.ready hw0 rfl w ?_ ?_ hcount ?_⟩
        · show finS (sReg x.m.s) = _
          rw [hms', finS_adj, hpoll]
          exact congrArg (fun t => adj t w t.im)
            (finS_sentOr { sReg a with im := interruptCheck c.strat s.im } p)
        · show (seen || p) = x.sigSeen
          rw [hsig, hseen]
        · show some (sipoll c true s).2 = some ((pollNextPost (sReg x.m.s).im
              (underOf (sReadyHalf (sReg x.m.s)).2)).2, itemOf (sReadyHalf (sReg x.m.s)).2)
          rw [hms', hans, adj_sReadyHalf]
          show _ = some ((pollNextPost (sentOr (interruptCheck c.strat s.im) p) _).2, _)
          rw [pollNextPost_sentOr]
    | ready _ hpc => rw [hpc0] at hpc; cases hpc
    | _ hw => rw [hw0] at hw; cases hw
  | readyStep =>
    obtain ⟨hw0, m', hm, rfl⟩ := mistep_readyStep_iff.mp hs
    obtain ⟨hpc0, rfl⟩ := mstep_readyStep_iff.mp hm
    cases hsim with
    | ready _ _ w hms hseen hn hret =>
      refine ⟨s, seen, n, last, hg, MITrS.returned rfl (sReadyHalf x.m.s).2 rfl w ?_ hseen hn ?_⟩
      · exact (finR_lastPending _ _ _).trans ((finR_sReadyHalf x.m.s).trans hms)
      · show last = some ((pollNextPost (sReadyHalf x.m.s).1.im _).2, _)
        rw [sReadyHalf_im]
        exact hret
    | draining _ hpc => rw [hpc0] at hpc; cases hpc
    | _ hw => rw [hw0] at hw; cases hw
  | finish =>
    obtain ⟨hw0, r0, hr0, rfl⟩ := mistep_finish_iff.mp hs
    cases hsim with
    | returned _ r hr w hms hseen hn hret =>
      obtain rfl : r = r0 := Option.some.inj (hr.symm.trans hr0)
      exact ⟨s, seen, n, last, hg, MITrS.idle rfl w hms hseen hn hret.symm⟩
    | _ hw => rw [hw0] at hw; cases hw
  | drop f =>
    obtain ⟨t', hd, rfl⟩ := mistep_drop_iff.mp hs
    obtain ⟨s', hd', h'⟩ := hsim.drop hc hg hd
    exact ⟨s', seen, n, last, hg.drop hd', h'⟩
  | dropStream =>
    obtain ⟨hw0, _, hsd, rfl⟩ := mistep_dropStream_iff.mp hs
    obtain ⟨w, hms, hseen, hn, hret⟩ := hsim.of_idle hw0
    rw [hms] at hsd
    refine ⟨sdropStream s, seen, n, last, hg.dropStream hsd, MITrS.idle hw0 w ?_ hseen hn hret⟩
    show sdropStream x.m.s = _
    rw [hms]
    rfl
  | interrupt =>
    rcases hsim.interrupt (mistep_interrupt_iff.mp hs) with h' | h'
    · exact ⟨s, seen, n, last, hg, h'⟩
    · exact ⟨_, true, n, last, hg.interrupt, h'⟩

theorem mitr_reachable (hc : GoodCfg c) (hr : MIReachable c x) : MITr c x := by
  induction hr with
  | init => exact ⟨sinit c, false, 0, none, SReachG.init, MITrS.idle rfl false (adj_false_im _).symm rfl rfl rfl⟩
  | step a _ hs ih => exact mitr_step hc ih hs

end FG
