/-
  Counting along a schedule of ANY transition system that drives one `InterruptibleStream`
  (`Drives`): a step is a signal, or one `pollNext` that adds one to the count iff the answer
  satisfies `p`, or it leaves machine and count alone.  A machine invariant with the ghost values
  "a signal was sent" and "answers counted since" (`GhostInv`; a potential gives one, `Pot.ghost`)
  then holds along every schedule of such a system, with the count read off the states, and along
  the ghost run `irun` of the machine alone (events `IEv`: a signal, or a poll with its answer).
-/
import FnGraphVerif.Proofs.IntrCompose
import FnGraphVerif.Proofs.StreamStep
namespace FG

variable {σ α : Type}

/-- the growth of `cnt` over those steps of the longest executable prefix of a schedule that come
    after its first marked action (`seen` = a marked action has already happened) -/
def cntAfter (step : σ → α → Option σ) (mark : α → Bool) (cnt : σ → Nat) :
    σ → Bool → List α → Nat
  | _, _, [] => 0
  | s, seen, a :: as =>
    match step s a with
    | none => 0
    | some s' => (if seen then cnt s' - cnt s else 0) + cntAfter step mark cnt s' (seen || mark a) as

theorem cntAfter_unique {step : σ → α → Option σ} {mark : α → Bool} {cnt : σ → Nat}
    {f : σ → Bool → List α → Nat} (h0 : ∀ s seen, f s seen [] = 0)
    (h1 : ∀ s seen a as, f s seen (a :: as) = match step s a with
      | none => 0
      | some s' => (if seen then cnt s' - cnt s else 0) + f s' (seen || mark a) as)
    (as : List α) : ∀ s seen, f s seen as = cntAfter step mark cnt s seen as := by
  induction as with
  | nil => exact h0
  | cons a as ih =>
    intro s seen
    rw [h1, cntAfter]
    cases step s a with
    | none => rfl
    | some s' => simp only [ih]

/-- `step` drives an `InterruptibleStream` with strategy `st` held in `im s`; `cnt s` counts the
    answers satisfying `p`; `mark` recognises the signal -/
structure Drives (step : σ → α → Option σ) (mark : α → Bool) (st : Strat) (p : Out → Bool)
    (im : σ → IM) (cnt : σ → Nat) : Prop where
  signal : ∀ {s a s'}, step s a = some s' → mark a = true →
    im s' = { im s with sent := true } ∧ cnt s' = cnt s
  other : ∀ {s a s'}, step s a = some s' → mark a = false →
    (im s' = im s ∧ cnt s' = cnt s) ∨
    ∃ u, im s' = (pollNext st (im s) u).1 ∧
      cnt s' = cnt s + if p (pollNext st (im s) u).2 then 1 else 0

/-- an invariant of the machine with ghost values `es` (a signal was sent) and `y` (answers
    satisfying `p` since then) -/
structure GhostInv (st : Strat) (p : Out → Bool) (I : IM → Bool → Nat → Prop) : Prop where
  signal : ∀ {m es y}, I m es y → I { m with sent := true } true y
  poll : ∀ {m es y} (u : Under), I m es y →
    I (pollNext st m u).1 es (if es && p (pollNext st m u).2 then y + 1 else y)

section
variable {step : σ → α → Option σ} {mark : α → Bool} {st : Strat} {p : Out → Bool}
  {im : σ → IM} {cnt : σ → Nat} {I : IM → Bool → Nat → Prop} {s s' : σ} {a : α}

theorem Drives.ghost_step (D : Drives step mark st p im cnt) (G : GhostInv st p I) {es : Bool} {y : Nat}
    (h : step s a = some s') (hi : I (im s) es y) :
    I (im s') (es || mark a) (if es then y + (cnt s' - cnt s) else y) := by
  cases hm : mark a with
  | true =>
    obtain ⟨e1, e2⟩ := D.signal h hm
    have := G.signal hi
    rw [e1, e2]
    cases es <;> simpa using this
  | false =>
    rcases D.other h hm with ⟨e1, e2⟩ | ⟨u, e1, e2⟩
    · rw [e1, e2]
      cases es <;> simpa using hi
    · have := G.poll u hi
      rw [e1, e2]
      cases es <;> cases hp : p (pollNext st (im s) u).2 <;> simpa [hp] using this

/-- a signal is in from the start: the ghost count is the whole count -/
theorem Drives.ghost_sent (D : Drives step mark st p im cnt) (G : GhostInv st p I)
    (h : step s a = some s') (hi : I (im s) true (cnt s)) : I (im s') true (cnt s') := by
  have hle : cnt s ≤ cnt s' := by
    cases hm : mark a with
    | true => exact Nat.le_of_eq (D.signal h hm).2.symm
    | false => rcases D.other h hm with ⟨_, e⟩ | ⟨u, _, e⟩ <;> omega
  have := D.ghost_step G h hi
  rwa [Bool.true_or, if_pos rfl, Nat.add_sub_cancel' hle] at this

/-- whatever the invariant bounds, it bounds along every schedule -/
theorem Drives.cntAfter_le (D : Drives step mark st p im cnt) (G : GhostInv st p I) {B : Nat}
    (hB : ∀ {m es y}, I m es y → y ≤ B) (as : List α) :
    ∀ s seen y, I (im s) seen y → y + cntAfter step mark cnt s seen as ≤ B := by
  induction as with
  | nil => intro s seen y hi; exact hB hi
  | cons a as ih =>
    intro s seen y hi
    unfold cntAfter
    cases h : step s a with
    | none => exact hB hi
    | some s' =>
      have := ih s' _ _ (D.ghost_step G h hi)
      cases seen <;> simp only [Bool.false_eq_true, if_false, if_true] at this ⊢ <;> omega

end

theorem GhostInv.and {st : Strat} {p : Out → Bool} {I J : IM → Bool → Nat → Prop}
    (G : GhostInv st p I) (H : GhostInv st p J) : GhostInv st p (fun m es y => I m es y ∧ J m es y) where
  signal h := ⟨G.signal h.1, H.signal h.2⟩
  poll u h := ⟨G.poll u h.1, H.poll u h.2⟩

/-- `β` is a potential for the answers satisfying `p`, valid once a signal is in: no poll raises
    it, an answer satisfying `p` lowers it by one, a further signal leaves it alone; when the first
    signal arrives at a fresh machine it is at most `B0` -/
structure Pot (st : Strat) (p : Out → Bool) (β : IM → Nat) (B0 : Nat) : Prop where
  signal : ∀ m : IM, β { m with sent := true } = β m
  poll : ∀ {m : IM} (u : Under), (m.recv = true ∨ m.sent = true) →
    β (pollNext st m u).1 + (if p (pollNext st m u).2 then 1 else 0) ≤ β m
  fresh : ∀ {m : IM}, m.Pristine → β m ≤ B0

theorem Pot.mono {st : Strat} {p q : Out → Bool} {β : IM → Nat} {B0 : Nat} (P : Pot st p β B0)
    (hq : ∀ {o}, q o = true → p o = true) : Pot st q β B0 where
  signal := P.signal
  fresh := P.fresh
  poll {m} u h := by
    have := P.poll u h
    cases hqo : q (pollNext st m u).2
    · simp only [Bool.false_eq_true, if_false]; split at this <;> omega
    · rwa [if_pos (hq hqo)] at this

/-- items: `n`, or the one awaited item if `n = 0` -/
theorem potItem {st : Strat} {n : Nat} (hst : st.lim = some n) :
    Pot st Out.isItem (IM.bud n) (max n 1) :=
  ⟨bud_signal n, fun u h => bud_poll hst h u, pristine_bud n⟩

/-- `NoInterrupt(item)` answers: `n` (`FinishCurrent` / `PollNextN(0)`: none after the signal) -/
theorem potN {st : Strat} {n : Nat} (hst : st.lim = some n) :
    Pot st (fun o => decide (o = .noInt)) (IM.budN n) n :=
  ⟨budN_signal n, fun u h => by simp only [decide_eq_true_eq]; exact (budN_budI_poll hst h u).1, pristine_budN n⟩

/-- along a run: until the first signal the machine is pristine and nothing is counted; from then
    on the count and the potential together stay within `B` -/
def Within (β : IM → Nat) (B0 B : Nat) (m : IM) (es : Bool) (y : Nat) : Prop :=
  (es = false → m.Pristine ∧ y = 0 ∧ B0 ≤ B) ∧
  (es = true → (m.recv = true ∨ m.sent = true) ∧ y + β m ≤ B)

theorem Within.le {β : IM → Nat} {B0 B : Nat} {m : IM} {es : Bool} {y : Nat}
    (h : Within β B0 B m es y) : y ≤ B := by
  cases es
  · obtain ⟨-, hy, -⟩ := h.1 rfl; omega
  · have := (h.2 rfl).2; omega

theorem within_pristine {β : IM → Nat} {B0 B : Nat} {m : IM} (hm : m.Pristine) (hB : B0 ≤ B) :
    Within β B0 B m false 0 :=
  ⟨fun _ => ⟨hm, rfl, hB⟩, fun h => (by cases h)⟩

theorem within_sent {β : IM → Nat} {B0 B : Nat} {m : IM} (h : m.recv = true ∨ m.sent = true)
    (hB : β m ≤ B) : Within β B0 B m true 0 :=
  ⟨fun h => (by cases h), fun _ => ⟨h, (Nat.zero_add _).symm ▸ hB⟩⟩

theorem Pot.ghost {st : Strat} {p : Out → Bool} {β : IM → Nat} {B0 : Nat} (P : Pot st p β B0)
    (B : Nat) : GhostInv st p (Within β B0 B) where
  signal {m es y} h := by
    refine ⟨fun hf => (by cases hf), fun _ => ⟨Or.inr rfl, ?_⟩⟩
    rw [P.signal]
    cases es
    · obtain ⟨hm, hy, hB⟩ := h.1 rfl
      have := P.fresh hm
      omega
    · exact (h.2 rfl).2
  poll {m es y} u h := by
    cases es
    · obtain ⟨hm, hy, hB⟩ := h.1 rfl
      exact ⟨fun _ => ⟨IM.Pristine.poll hm u, hy, hB⟩, fun hf => (by cases hf)⟩
    · obtain ⟨hr, hb⟩ := h.2 rfl
      have p2 := P.poll u hr
      refine ⟨fun hf => (by cases hf), fun _ => ⟨pollNext_signalIn st u hr, ?_⟩⟩
      rw [Bool.true_and]
      cases ho : p (pollNext st m u).2
      · simp only [ho, Bool.false_eq_true, if_false] at p2 ⊢; omega
      · simp only [ho, if_true] at p2 ⊢; omega

/-- "a signal is in and `budI = 0`" stays so; with `budI_zero_poll` no answer is
    `Interrupted(Some _)` -/
theorem ghostBudI {st : Strat} {n : Nat} (hst : st.lim = some n) (p : Out → Bool) :
    GhostInv st p (fun m _ _ => (m.recv = true ∨ m.sent = true) ∧ m.budI n = 0) where
  signal h := ⟨Or.inr rfl, h.2⟩
  poll u h := ⟨pollNext_signalIn st u h.1, (budI_zero_poll hst h.1 h.2 u).1⟩

theorem ghostNoSignal (st : Strat) (p : Out → Bool) :
    GhostInv st p (fun m es y => es = false → m.NoSignal ∧ y = 0) where
  signal _ h := nomatch h
  poll u h hes := by
    subst hes
    exact ⟨((h rfl).1.poll st u).1, (h rfl).2⟩

theorem ghostTransparent {st : Strat} (hst : st = .non ∨ st = .ignore) (p : Out → Bool) :
    GhostInv st p (fun m _ _ => m.sig = false ∧ m.ian = false) where
  signal h := h
  poll u h := ⟨(pollNext_transparent hst h.1 h.2 u).1, (pollNext_transparent hst h.1 h.2 u).2.1⟩

theorem drives_proto (c : Cfg) :
    Drives (step? c) (· == .interrupt) c.strat (Out.handsOut c.incl) (·.im) (·.handedOut.length) where
  signal h hm := by
    obtain ⟨e1, e2, -, -⟩ := step_interrupt ((beq_iff_eq.mp hm) ▸ h)
    exact ⟨e1, congrArg _ e2⟩
  other {s a s'} h hm := by
    have h1 : a ≠ .interrupt := by simpa using hm
    by_cases h2 : a = .schedPoll
    · subst h2
      obtain ⟨e1, e2, -⟩ := step_schedPoll h
      exact Or.inr ⟨_, e1, e2⟩
    · obtain ⟨e1, e2, -, -⟩ := step_other h h1 h2
      exact Or.inl ⟨e1, congrArg _ e2⟩

theorem drives_stream (c : Cfg) (drain : Bool) :
    Drives (sstep? c drain) (· == .interrupt) c.strat (Out.handsOut true) (·.im) (·.yielded.length) where
  signal h hm := by
    obtain ⟨e1, e2⟩ := sstep_interrupt ((beq_iff_eq.mp hm) ▸ h)
    exact ⟨e1, congrArg _ e2⟩
  other {s a s'} h hm := by
    have h1 : a ≠ .interrupt := by simpa using hm
    by_cases h2 : a = .poll
    · subst h2
      obtain ⟨e1, e2⟩ := sstep_poll h
      exact Or.inr ⟨_, e1, by rw [Out.handsOut_true]; exact e2⟩
    · obtain ⟨e1, e2⟩ := sstep_other h h1 h2
      exact Or.inl ⟨e1, congrArg _ e2⟩

/-- C08's bound on the answers handed out after the signal.  `FinishCurrent` / `PollNextN(0)`: the
    one `Interrupted(Some _)` item, counted only if it is handed out (`incl`); `PollNextN(k+1)`:
    `k + 1`.  The 0 for the non-interrupting strategies is a filler, not a bound: the theorems
    exclude them by hypothesis. -/
def intrBound : Strat → Bool → Nat
  | .finish, incl => if incl then 1 else 0
  | .pollN 0, incl => if incl then 1 else 0
  | .pollN (k + 1), _ => k + 1
  | _, _ => 0

/-- a system that drives a fresh machine counts at most `intrBound` answers after the signal: the
    budget of items, except that `FinishCurrent` / `PollNextN(0)` without
    `interrupted_next_item_include` hand out only `NoInterrupt` items, whose budget is `budN` -/
theorem Drives.after_interrupt_le {step : σ → α → Option σ} {mark : α → Bool}
    {st : Strat} {incl : Bool} {im : σ → IM} {cnt : σ → Nat}
    (D : Drives step mark st (Out.handsOut incl) im cnt)
    (hst : st = .finish ∨ ∃ k, st = .pollN k) {s : σ} (h0 : (im s).Pristine) (as : List α) :
    cntAfter step mark cnt s false as ≤ intrBound st incl := by
  -- a potential that is at most `B` when the first signal arrives bounds the count by `B`
  have key : ∀ {β : IM → Nat} {B0 : Nat} (B : Nat), Pot st (Out.handsOut incl) β B0 → B0 ≤ B →
      cntAfter step mark cnt s false as ≤ B := fun B P hB => by
    have := D.cntAfter_le (P.ghost B) Within.le as s false 0 (within_pristine h0 hB)
    omega
  have hF : st.lim = some 0 →
      cntAfter step mark cnt s false as ≤ if incl then 1 else 0 := fun hl => by
    cases incl
    · exact key 0 ((potN hl).mono fun h => by simpa using Out.handsOut_false h) (Nat.le_refl 0)
    · exact key 1 ((potItem hl).mono Out.handsOut_isItem) (Nat.le_refl 1)
  rcases hst with rfl | ⟨_ | k, rfl⟩
  · exact hF rfl
  · exact hF rfl
  · exact key (k + 1) ((potItem (st := .pollN (k + 1)) rfl).mono Out.handsOut_isItem)
      (Nat.max_le.mpr ⟨Nat.le_refl _, Nat.succ_pos k⟩)

/-- number of functions handed out by those actions of `as` that come after the first `interrupt` -/
def handoutsAfterIntr (c : Cfg) : PState → Bool → List Action → Nat
  | _, _, [] => 0
  | s, seen, a :: as =>
    match step? c s a with
    | none => 0
    | some s' =>
      (if seen then s'.handedOut.length - s.handedOut.length else 0)
        + handoutsAfterIntr c s' (seen || a == .interrupt) as

theorem handoutsAfterIntr_eq (c : Cfg) (as : List Action) : ∀ s seen,
    handoutsAfterIntr c s seen as =
      cntAfter (step? c) (· == .interrupt) (·.handedOut.length) s seen as :=
  cntAfter_unique (fun _ _ => rfl)
    (fun s _ a _ => by rw [handoutsAfterIntr]; cases step? c s a <;> rfl) as

theorem handouts_le_bud (c : Cfg) {n : Nat} (hst : c.strat.lim = some n) (as : List Action)
    (s : PState) (hs : s.im.recv = true ∨ s.im.sent = true) :
    handoutsAfterIntr c s true as ≤ s.im.bud n := by
  have := (drives_proto c).cntAfter_le (((potItem hst).mono Out.handsOut_isItem).ghost _) Within.le
    as s true 0 (within_sent hs (Nat.le_refl _))
  rw [handoutsAfterIntr_eq]
  omega

/-- number of items yielded by those actions of `as` that come after the first `interrupt` -/
def yieldsAfterIntr (c : Cfg) : SState → Bool → List SAction → Nat
  | _, _, [] => 0
  | s, seen, a :: as =>
    match sstep? c true s a with
    | none => 0
    | some s' =>
      (if seen then s'.yielded.length - s.yielded.length else 0)
        + yieldsAfterIntr c s' (seen || a == .interrupt) as

theorem yieldsAfterIntr_eq (c : Cfg) (as : List SAction) : ∀ s seen,
    yieldsAfterIntr c s seen as =
      cntAfter (sstep? c true) (· == .interrupt) (·.yielded.length) s seen as :=
  cntAfter_unique (fun _ _ => rfl)
    (fun s _ a _ => by rw [yieldsAfterIntr]; cases sstep? c true s a <;> rfl) as

/-- what one `InterruptibleStream` sees: a signal is placed in its channel, or it is polled while
    the underlying stream would answer `u` -/
inductive IEv
  | signal
  | poll (u : Under)
  deriving DecidableEq, Repr

/-- ghost run of the machine: `yN` / `yI` count the `NoInterrupt(item)` / `Interrupted(Some item)`
    answers given since the first signal was sent; `outs` are all answers -/
structure IG where
  m : IM := {}
  everSent : Bool := false
  yN : Nat := 0
  yI : Nat := 0
  outs : List Out := []

def istep (st : Strat) (g : IG) : IEv → IG
  | .signal => { g with m := { g.m with sent := true }, everSent := true }
  | .poll u =>
    let r := pollNext st g.m u
    { g with m := r.1,
             yN := if g.everSent && r.2 = .noInt then g.yN + 1 else g.yN,
             yI := if g.everSent && r.2 = .intSome then g.yI + 1 else g.yI,
             outs := g.outs ++ [r.2] }

def irun (st : Strat) (evs : List IEv) : IG := evs.foldl (istep st) {}

theorem ifold_inv (st : Strat) (P : IG → Prop) (hstep : ∀ g e, P g → P (istep st g e))
    (evs : List IEv) (g : IG) (h0 : P g) : P (evs.foldl (istep st) g) := by
  induction evs generalizing g with
  | nil => exact h0
  | cons e evs ih => exact ih _ (hstep g e h0)

theorem istep_poll_sum (st : Strat) (g : IG) (u : Under) :
    (istep st g (.poll u)).yN + (istep st g (.poll u)).yI =
      if g.everSent && (pollNext st g.m u).2.isItem then g.yN + g.yI + 1 else g.yN + g.yI := by
  simp only [istep]
  cases g.everSent <;> cases (pollNext st g.m u).2 <;> simp [Out.isItem] <;> omega

theorem GhostInv.ifold {st : Strat} {p : Out → Bool} {I : IM → Bool → Nat → Prop}
    (G : GhostInv st p I) (cnt : IG → Nat) (hs : ∀ g, cnt (istep st g .signal) = cnt g)
    (hp : ∀ g u, cnt (istep st g (.poll u)) =
      if g.everSent && p (pollNext st g.m u).2 then cnt g + 1 else cnt g)
    (evs : List IEv) (g : IG) (h : I g.m g.everSent (cnt g)) :
    I (evs.foldl (istep st) g).m (evs.foldl (istep st) g).everSent (cnt (evs.foldl (istep st) g)) := by
  refine ifold_inv st (fun g => I g.m g.everSent (cnt g)) ?_ evs g h
  rintro g (_ | u) h
  · rw [hs]; exact G.signal h
  · rw [hp]; exact G.poll u h

theorem Pot.ifold {st : Strat} {p : Out → Bool} {β : IM → Nat} {B0 : Nat} (P : Pot st p β B0)
    {B : Nat} (cnt : IG → Nat) (hs : ∀ g, cnt (istep st g .signal) = cnt g)
    (hp : ∀ g u, cnt (istep st g (.poll u)) =
      if g.everSent && p (pollNext st g.m u).2 then cnt g + 1 else cnt g)
    (evs : List IEv) (g : IG) (h : Within β B0 B g.m g.everSent (cnt g)) :
    cnt (evs.foldl (istep st) g) ≤ B :=
  ((P.ghost B).ifold cnt hs hp evs g h).le

theorem irun_snoc (st : Strat) (evs : List IEv) (e : IEv) :
    irun st (evs ++ [e]) = istep st (irun st evs) e := by
  simp [irun, List.foldl_append]

theorem irun_nosig (st : Strat) (evs : List IEv) (h : (irun st evs).everSent = false) :
    (irun st evs).m.NoSignal ∧ (irun st evs).yN + (irun st evs).yI = 0 :=
  (ghostNoSignal st Out.isItem).ifold (fun g => g.yN + g.yI) (fun _ => rfl) (istep_poll_sum st) evs {}
    (fun _ => ⟨⟨rfl, rfl, rfl, rfl⟩, rfl⟩) h

/-- no `Interrupted(..)` answer before `ian` is set; after one, only end-of-stream -/
def EndsInv (g : IG) : Prop :=
  (g.m.ian = false → ∀ o ∈ g.outs, o.isIntr = false) ∧
  g.outs.Pairwise (fun a b => a.isIntr = true → b = .endd)

theorem endsInv_step (st : Strat) (g : IG) (e : IEv) (h : EndsInv g) : EndsInv (istep st g e) := by
  obtain ⟨h1, h2⟩ := h
  cases e with
  | signal => exact ⟨h1, h2⟩
  | poll u =>
    show EndsInv { g with m := (pollNext st g.m u).1, yN := _, yI := _,
                          outs := g.outs ++ [(pollNext st g.m u).2] }
    refine ⟨fun hr o ho => ?_,
      List.pairwise_append.mpr ⟨h2, List.pairwise_singleton _ _, fun a ha b hb hi => ?_⟩⟩
    · obtain ⟨p1, p2⟩ := pollNext_notIan hr
      rcases List.mem_append.1 ho with ho | ho
      · exact h1 p1 o ho
      · rw [List.mem_singleton.1 ho]; exact p2
    · -- an earlier `Interrupted(..)` answer: `ian` is set, the machine answers end-of-stream
      rw [List.mem_singleton.1 hb]
      cases hian : g.m.ian
      · rw [h1 hian a ha] at hi; cases hi
      · rw [pollNext_ian hian]

end FG
