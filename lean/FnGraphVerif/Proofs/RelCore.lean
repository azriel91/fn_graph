/-
  Proofs/RelCore.lean — the release core: an invariant and its one preservation lemma.

  Both the queuer of the run protocol (`queuerRecv`) and the `stream_internal` poll (`sRelease`) fold a
  done id `x` with `relFold … (children c.D x)`.  What they maintain is a relation between four lists:
  the counts, the ids released so far, the ready queue `rq`, and the ids that already LEFT the ready
  queue (`out`: `handedOut ++ dropped.toList` in the run protocol, `yielded` in the stream).
-/
import FnGraphVerif.Proofs.ProtoInv
namespace FG

structure RelCore (c : Cfg) (counts released rq out : List Nat) : Prop where
  cnt : ∀ v, counts[v]?.getD 0 = unreleased c.D released v
  ready : ∀ v, v ∈ rq ∨ v ∈ out → ∀ p ∈ parents c.D v, p ∈ released
  queueNodup : (rq ++ out).Nodup
  bound : ∀ v, v ∈ rq ∨ v ∈ out → v < c.n

variable {c : Cfg} {counts released rq out : List Nat}

/-- as soon as what is released has itself left the ready queue, whatever is queued or out has ALL
    its ancestors released: the `ready` clause along a path -/
theorem RelCore.ancestors_released (h : RelCore c counts released rq out) (hro : ∀ x ∈ released, x ∈ out)
    {u v : Nat} (hv : v ∈ rq ∨ v ∈ out) (huv : ReachP c.D u v) : u ∈ released := by
  induction huv with
  | edge he => exact h.ready _ hv _ (mem_parents.mpr he)
  | tail _ he ih => exact ih (Or.inr (hro _ (h.ready _ hv _ (mem_parents.mpr he))))

/-- **the release step**: folding a done id `x` that is not yet released keeps the core, never
    underflows a count, and appends to the ready queue exactly (sender open) the children of `x`
    whose last unreleased parent was `x` — or nothing (sender closed). -/
theorem RelCore.release (hc : GoodCfg c) (h : RelCore c counts released rq out) {x : Nat} (hx : x ∉ released)
    (cs : Bool) {pan : Bool} (hpan : pan = false) :
    RelCore c (relFold cs c.cap (counts, rq, pan) (children c.D x)).1 (released ++ [x])
      (relFold cs c.cap (counts, rq, pan) (children c.D x)).2.1 out ∧
    (relFold cs c.cap (counts, rq, pan) (children c.D x)).2.2 = false ∧
    (relFold cs c.cap (counts, rq, pan) (children c.D x)).2.1 =
      rq ++ (children c.D x).filter (fun ch => cs && unreleased c.D (released ++ [x]) ch == 0) := by
  subst hpan
  have hchnd : (children c.D x).Nodup := (hc.simple x).1
  have hpar : ∀ ch, ch ∈ children c.D x ↔ x ∈ parents c.D ch := fun ch => mem_children.trans mem_parents.symm
  -- a child of `x` still waits for `x`: it is neither queued nor out, and its count is positive
  have hchq : ∀ ch ∈ children c.D x, ch ∉ rq ∧ ch ∉ out := fun ch hch =>
    ⟨fun hm => hx (h.ready ch (Or.inl hm) x ((hpar ch).mp hch)),
     fun hm => hx (h.ready ch (Or.inr hm) x ((hpar ch).mp hch))⟩
  have hchlt : ∀ ch ∈ children c.D x, ch < c.n := fun ch hch => ((mem_children.mp hch).lt hc.wf).2
  have hstep : ∀ v, unreleased c.D (released ++ [x]) v =
      unreleased c.D released v - if v ∈ children c.D x then 1 else 0 := by
    intro v
    rw [unreleased_snoc v (hc.simple v).2 hx]
    simp only [hpar v]
  have hpos : ∀ ch ∈ children c.D x, counts[ch]?.getD 0 ≠ 0 := by
    intro ch hch
    rw [h.cnt ch]
    have : x ∈ (parents c.D ch).filter (fun p => decide (p ∉ released)) := by simp [(hpar ch).mp hch, hx]
    exact Nat.ne_of_gt (List.length_pos_of_mem this)
  have hroom : rq.length + (children c.D x).length ≤ c.cap := by
    have hnd2 : (rq ++ children c.D x).Nodup :=
      List.nodup_append.mpr ⟨(List.nodup_append.mp h.queueNodup).1, hchnd,
        fun a ha b hb hab => (hchq b hb).1 (hab ▸ ha)⟩
    have := nodup_bounded_length hnd2 (n := c.n) (fun v hv => (List.mem_append.mp hv).elim
      (fun hv => h.bound v (Or.inl hv)) (hchlt v))
    rw [List.length_append] at this
    have := c.n_le_cap
    omega
  have hcnt : ∀ v, (relFold cs c.cap (counts, rq, false) (children c.D x)).1[v]?.getD 0 =
      unreleased c.D (released ++ [x]) v := by
    intro v
    rw [relFold_counts _ _ _ hchnd, hstep v, ← h.cnt v]
    split <;> rfl
  have hrq := relFold_readyQ cs c.cap _ hchnd (counts, rq, false) hroom
  have hfil : (children c.D x).filter (fun ch => cs && (counts, rq, false).1[ch]?.getD 0 - 1 == 0) =
      (children c.D x).filter (fun ch => cs && unreleased c.D (released ++ [x]) ch == 0) := by
    apply List.filter_congr
    intro ch hch
    rw [hstep ch, if_pos hch, ← h.cnt ch]
  rw [hfil] at hrq
  refine ⟨⟨hcnt, ?_, ?_, ?_⟩, relFold_panic _ _ _ hchnd _ rfl hpos, hrq⟩
  · intro v hv p hp
    rw [hrq, List.mem_append, List.mem_filter] at hv
    rcases hv with (hv | ⟨_, hv⟩) | hv
    · exact List.mem_append_left _ (h.ready v (Or.inl hv) p hp)
    · simp only [Bool.and_eq_true, beq_iff_eq] at hv
      exact unreleased_eq_zero.mp hv.2 p hp
    · exact List.mem_append_left _ (h.ready v (Or.inr hv) p hp)
  · rw [hrq, List.append_assoc]
    have h1 := List.nodup_append.mp h.queueNodup
    refine List.nodup_append.mpr ⟨h1.1, List.nodup_append.mpr ⟨hchnd.filter _, h1.2.1, ?_⟩, ?_⟩
    · intro a ha b hb hab
      exact (hchq a (List.mem_filter.mp ha).1).2 (hab ▸ hb)
    · intro a ha b hb hab
      rcases List.mem_append.mp hb with hb | hb
      · exact (hchq b (List.mem_filter.mp hb).1).1 (hab ▸ ha)
      · exact h1.2.2 a ha b hb hab
  · intro v hv
    rw [hrq, List.mem_append, List.mem_filter] at hv
    rcases hv with (hv | ⟨hv, _⟩) | hv
    · exact h.bound v (Or.inl hv)
    · exact hchlt v hv
    · exact h.bound v (Or.inr hv)

end FG
