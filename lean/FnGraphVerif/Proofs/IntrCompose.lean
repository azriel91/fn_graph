/-
  How the run protocol (`Model/Proto.lean`) drives the `InterruptibleStream` machine: every action
  other than `interrupt` / `schedPoll` leaves `im` alone and hands out nothing; `schedPoll` performs
  exactly one `pollNext` and hands out one function iff the answer is `NoInterrupt(item)`, or
  `Interrupted(Some item)` with `interrupted_next_item_include`.
-/
import FnGraphVerif.Proofs.ProtoStep
namespace FG

theorem step_other {c : Cfg} {s s' : PState} {a : Action} (h : step? c s a = some s')
    (h1 : a ≠ .interrupt) (h2 : a ≠ .schedPoll) :
    s'.im = s.im ∧ s'.handedOut = s.handedOut ∧ s'.dropped = s.dropped ∧
    s'.closeAfter = s.closeAfter := by
  cases a with
  | interrupt => exact absurd rfl h1
  | schedPoll => exact absurd rfl h2
  | queuerRecv => obtain ⟨_, _, _, _, _, rfl⟩ := step_queuerRecv_iff.mp h; exact ⟨rfl, rfl, rfl, rfl⟩
  | queuerEnd => obtain ⟨_, _, _, rfl⟩ := step_queuerEnd_iff.mp h; exact ⟨rfl, rfl, rfl, rfl⟩
  | invoke f => obtain ⟨_, _, rfl⟩ := step_invoke_iff.mp h; exact ⟨rfl, rfl, rfl, rfl⟩
  | finish f ok => obtain ⟨_, rfl⟩ := step_finish_iff.mp h; exact ⟨rfl, rfl, rfl, rfl⟩
  | schedEnd => obtain ⟨_, _, _, rfl⟩ := step_schedEnd_iff.mp h; exact ⟨rfl, rfl, rfl, rfl⟩
  | ret => obtain ⟨_, _, _, rfl⟩ := step_ret_iff.mp h; exact ⟨rfl, rfl, rfl, rfl⟩

theorem step_interrupt {c : Cfg} {s s' : PState} (h : step? c s .interrupt = some s') :
    s'.im = { s.im with sent := true } ∧ s'.handedOut = s.handedOut ∧ s'.dropped = s.dropped ∧
    s'.closeAfter = s.closeAfter := by
  cases step_interrupt_iff.mp h
  exact ⟨rfl, rfl, rfl, rfl⟩

/-- does the answer of the interruptible ready stream make the scheduler hand a function out? -/
def Out.handsOut (incl : Bool) : Out → Bool
  | .noInt => true
  | .intSome => incl
  | _ => false

theorem Out.handsOut_isItem {incl : Bool} {o : Out} (h : o.handsOut incl = true) :
    o.isItem = true := by
  cases o <;> simp_all [Out.handsOut, Out.isItem]

theorem Out.handsOut_true (o : Out) : o.handsOut true = o.isItem := by cases o <;> rfl

theorem Out.handsOut_false {o : Out} (h : o.handsOut false = true) : o = .noInt := by
  cases o <;> simp_all [Out.handsOut]

theorem step_schedPoll {c : Cfg} {s s' : PState} (h : step? c s .schedPoll = some s') :
    s'.im = (pollNext c.strat s.im (readyUnder s)).1 ∧
    s'.handedOut.length = s.handedOut.length +
      (if (pollNext c.strat s.im (readyUnder s)).2.handsOut c.incl then 1 else 0) ∧
    s'.inflight.length = s.inflight.length +
      (if (pollNext c.strat s.im (readyUnder s)).2.handsOut c.incl then 1 else 0) ∧
    ((pollNext c.strat s.im (readyUnder s)).2 ≠ .intSome →
      s'.dropped = s.dropped ∧ s'.closeAfter = s.closeAfter) := by
  obtain ⟨_, _, _, hp⟩ := step_schedPoll_iff.mp h
  generalize pollNext c.strat s.im (readyUnder s) = r at hp ⊢
  obtain ⟨m, out⟩ := r
  rcases spApply_eq_some hp with ⟨rfl, rfl⟩ | ⟨rfl, rfl⟩ | ⟨rfl, rfl⟩ | ⟨rfl, f, rest, _, rfl⟩ |
    ⟨rfl, f, rest, _, ⟨hi, rfl⟩ | ⟨hi, rfl⟩⟩
  · exact ⟨rfl, rfl, rfl, fun _ => ⟨rfl, rfl⟩⟩
  · exact ⟨rfl, rfl, rfl, fun _ => ⟨rfl, rfl⟩⟩
  · exact ⟨rfl, rfl, rfl, fun _ => ⟨rfl, rfl⟩⟩
  · exact ⟨rfl, by simp [handOut, Out.handsOut], by simp [handOut, Out.handsOut], fun _ => ⟨rfl, rfl⟩⟩
  · exact ⟨rfl, by simp [handOut, Out.handsOut, hi], by simp [handOut, Out.handsOut, hi],
      fun hne => absurd rfl hne⟩
  · exact ⟨rfl, by simp [Out.handsOut, hi], by simp [Out.handsOut, hi], fun hne => absurd rfl hne⟩

theorem step_dropped {c : Cfg} {s s' : PState} {a : Action} (h : step? c s a = some s')
    (hne : a = .schedPoll → (pollNext c.strat s.im (readyUnder s)).2 ≠ .intSome) :
    s'.dropped = s.dropped ∧ s'.closeAfter = s.closeAfter := by
  by_cases h1 : a = .interrupt
  · subst h1; exact (step_interrupt h).2.2
  · by_cases h2 : a = .schedPoll
    · subst h2; exact (step_schedPoll h).2.2.2 (hne rfl)
    · exact (step_other h h1 h2).2.2

/-- the step that RECEIVES the signal (`interrupt_signal_received` becomes `Some`) is a `schedPoll` -/
theorem receive_is_poll {c : Cfg} {s s' : PState} {a : Action} (h : step? c s a = some s')
    (h0 : s.im.recv = false) (h1 : s'.im.recv = true) : a = .schedPoll := by
  by_cases ha : a = .interrupt
  · subst ha
    obtain ⟨e1, _, _, _⟩ := step_interrupt h
    rw [e1] at h1
    simp only [h0] at h1
    cases h1
  · by_cases h2 : a = .schedPoll
    · exact h2
    · obtain ⟨e1, _, _, _⟩ := step_other h ha h2
      rw [e1, h0] at h1
      cases h1

theorem noSignal_step {c : Cfg} {s s' : PState} {a : Action} (ha : a ≠ .interrupt) (hp : s.im.NoSignal)
    (h : step? c s a = some s') : s'.im.NoSignal := by
  by_cases h2 : a = .schedPoll
  · subst h2
    rw [(step_schedPoll h).1]; exact (hp.poll _ _).1
  · rw [(step_other h ha h2).1]; exact hp

end FG
