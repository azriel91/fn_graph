/-
  Proofs/AugmentInv.lean — the loop invariant of `augment`.

  `ids` is any duplicate-free enumeration of the nodes in which every edge of the input graph
  points forward (position = `idxOf ids`).  The invariant `AInv` says: the state is `ok`, the
  edge list is the input's plus a list `Dd` of data edges, each of which joins two conflicting
  functions and points forward; the graph is simple; every data edge was produced by a pair
  that the scan has already passed (`scanned`: `k` = the outer position being scanned, inner
  positions `< bound` already passed); and (`hist`) when a data edge was inserted its
  end points were not joined by a path, and everything inserted later starts strictly earlier
  in `ids` or starts at the same node and ends strictly later.
-/
import FnGraphVerif.Proofs.SortByRank
import FnGraphVerif.Proofs.UpdateEdge
namespace FG

theorem augPair_skip {decls : List FnDecl} {u v : Nat} {st : AugSt} (hok : st.ok = true)
    (h : hasPath st.g u v = true ∨ conflict (declOf decls u) (declOf decls v) = false) :
    augPair decls u st v = { st with checks := st.checks + 1 } := by
  rcases h with h | h
  · simp [augPair, hok, h]
  · cases hp : hasPath st.g u v <;> simp [augPair, hok, hp, h]

theorem augPair_add {decls : List FnDecl} {u v : Nat} {st : AugSt} (hok : st.ok = true)
    (hp : hasPath st.g u v = false) (hc : conflict (declOf decls u) (declOf decls v) = true)
    {g' : Dag} {i : Nat} (hu : updateEdge st.g u v .data = (g', .ok i)) :
    augPair decls u st v = ⟨g', st.checks + 1, true⟩ := by
  simp [augPair, hok, hp, hc, hu]

/-- the inner slice of `augment` at position `k`: exactly the ids that come later -/
theorem mem_later {ids : List Nat} (hnd : ids.Nodup) {k : Nat} (hk : k < ids.length) {v : Nat} :
    v ∈ (ids.drop k).filter (fun v => v != ids[k]) ↔ v ∈ ids ∧ k < idxOf ids v := by
  rw [List.mem_filter, bne_iff_ne, ne_eq]
  constructor
  · rintro ⟨hd, hne⟩
    obtain ⟨j, hj, rfl⟩ := List.mem_drop_iff_getElem.mp hd
    refine ⟨List.getElem_mem _, ?_⟩
    rw [idxOf_getElem hnd]
    exact Nat.lt_of_le_of_ne (Nat.le_add_right k j) fun h => hne (by simp only [← h])
  · rintro ⟨hm, hlt⟩
    have hl := idxOf_lt_length hm
    refine ⟨List.mem_drop_iff_getElem.mpr ⟨idxOf ids v - k, by omega, ?_⟩, fun h => ?_⟩
    · simp only [Nat.add_sub_cancel' (Nat.le_of_lt hlt)]; exact getElem_idxOf hm
    · rw [h, idxOf_getElem hnd k hk] at hlt; exact Nat.lt_irrefl _ hlt

/-- what `augment` needs of the order it scans: `ids` lists every node once and every edge of the
    input graph points forward in it -/
structure OrdCtx (g : Dag) (ids : List Nat) : Prop where
  good : GoodG g
  nodup : ids.Nodup
  mem : ∀ v, v ∈ ids ↔ v < g.n
  len : ids.length = g.n
  fwd : Fwd g (idxOf ids)

structure AInv (g : Dag) (decls : List FnDecl) (ids : List Nat) (st : AugSt) (Dd : List Edge)
    (k bound : Nat) : Prop where
  ok : st.ok = true
  n : st.g.n = g.n
  edges : st.g.edges = g.edges ++ Dd
  data : ∀ e ∈ Dd, e.kind = .data ∧ conflict (declOf decls e.src) (declOf decls e.tgt) = true ∧
    e.src < g.n ∧ e.tgt < g.n ∧ idxOf ids e.src < idxOf ids e.tgt
  simple : Simple st.g
  scanned : ∀ e ∈ Dd, k < idxOf ids e.src ∨ (idxOf ids e.src = k ∧ idxOf ids e.tgt < bound)
  hist : ∀ D1 e D2, Dd = D1 ++ e :: D2 →
    ¬ Reach ⟨g.n, g.edges ++ D1⟩ e.src e.tgt ∧
    ∀ e' ∈ D2, idxOf ids e'.src < idxOf ids e.src ∨
      (idxOf ids e'.src = idxOf ids e.src ∧ idxOf ids e.tgt < idxOf ids e'.tgt)

variable {g : Dag} {decls : List FnDecl} {ids : List Nat}

theorem AInv.init (g : Dag) (decls : List FnDecl) (ids : List Nat) (hg : GoodG g) (k b : Nat) :
    AInv g decls ids ⟨g, 0, true⟩ [] k b where
  ok := rfl
  n := rfl
  edges := by simp
  data := by simp
  simple := hg.simple
  scanned := by simp
  hist := by intro D1 e D2 h; simp at h

theorem AInv.fwd_g (ctx : OrdCtx g ids) {st : AugSt} {Dd : List Edge} {k b : Nat}
    (inv : AInv g decls ids st Dd k b) : Fwd st.g (idxOf ids) := by
  rintro x y ⟨e, hm, rfl, rfl⟩
  rw [inv.edges] at hm
  rcases List.mem_append.mp hm with h | h
  · exact ctx.fwd _ _ ⟨e, h, rfl, rfl⟩
  · obtain ⟨-, -, -, -, h5⟩ := inv.data e h; exact h5

theorem AInv.wf (ctx : OrdCtx g ids) {st : AugSt} {Dd : List Edge} {k b : Nat}
    (inv : AInv g decls ids st Dd k b) : WF st.g := by
  intro e hm
  rw [inv.edges] at hm
  rw [inv.n]
  rcases List.mem_append.mp hm with h | h
  · exact ctx.good.wf e h
  · obtain ⟨-, -, h3, h4, -⟩ := inv.data e h; exact ⟨h3, h4⟩

theorem AInv.goodG (ctx : OrdCtx g ids) {st : AugSt} {Dd : List Edge} {k b : Nat}
    (inv : AInv g decls ids st Dd k b) : GoodG st.g :=
  ⟨inv.wf ctx, inv.simple, (inv.fwd_g ctx).acyclic⟩

theorem AInv.graph_eq {st : AugSt} {Dd : List Edge} {k b : Nat}
    (inv : AInv g decls ids st Dd k b) : st.g = ⟨g.n, g.edges ++ Dd⟩ := by
  rw [← inv.n, ← inv.edges]

/-- only `scanned` mentions the scan position, and nothing mentions `checks` -/
theorem AInv.rescan {st : AugSt} {Dd : List Edge} {k b k' b' : Nat} (inv : AInv g decls ids st Dd k b)
    (c : Nat) (h : ∀ e ∈ Dd, k' < idxOf ids e.src ∨ (idxOf ids e.src = k' ∧ idxOf ids e.tgt < b')) :
    AInv g decls ids { st with checks := c } Dd k' b' :=
  { inv with scanned := h }

/-- the inner loop has passed more positions -/
theorem AInv.bump {st : AugSt} {Dd : List Edge} {k b b' : Nat}
    (inv : AInv g decls ids st Dd k b) (hb : b ≤ b') (c : Nat) :
    AInv g decls ids { st with checks := c } Dd k b' :=
  inv.rescan c fun e he => (inv.scanned e he).imp_right fun ⟨h1, h2⟩ => ⟨h1, Nat.lt_of_lt_of_le h2 hb⟩

/-- the outer loop moves to the previous position -/
theorem AInv.next {st : AugSt} {Dd : List Edge} {k b : Nat}
    (inv : AInv g decls ids st Dd (k + 1) b) : AInv g decls ids st Dd k 0 :=
  inv.rescan st.checks fun e he => .inl ((inv.scanned e he).elim Nat.lt_of_succ_lt fun h => h.1 ▸ Nat.lt_succ_self k)

/-- the scan at outer position `k` appends the data edge `u → v` (`u` at position `k`, `v` beyond the
    inner positions already passed) between two conflicting functions not yet joined -/
theorem AInv.add {st : AugSt} {Dd : List Edge} {k bound : Nat}
    (inv : AInv g decls ids st Dd k bound) {u v : Nat} (hu : u < g.n) (hv : v < g.n)
    (hk : idxOf ids u = k) (hkv : k < idxOf ids v) (hb : bound ≤ idxOf ids v)
    (hc : conflict (declOf decls u) (declOf decls v) = true) (hnr : ¬ Reach st.g u v) (c : Nat) :
    AInv g decls ids ⟨addE st.g ⟨u, v, .data⟩, c, true⟩ (Dd ++ [⟨u, v, .data⟩]) k (idxOf ids v + 1) where
  ok := rfl
  n := inv.n
  edges := by show st.g.edges ++ [_] = _; rw [inv.edges, List.append_assoc]
  data := by
    intro e he
    rcases List.mem_append.mp he with h | h
    · exact inv.data e h
    · obtain rfl := List.mem_singleton.mp h
      exact ⟨rfl, hc, hu, hv, show idxOf ids u < idxOf ids v from hk ▸ hkv⟩
  simple := simple_addE (e := ⟨u, v, .data⟩) inv.simple fun he => hnr (Reach.tail (Reach.refl _) he)
  scanned := by
    intro e he
    rcases List.mem_append.mp he with h | h
    · exact (inv.bump (Nat.le_succ_of_le hb) 0).scanned e h
    · obtain rfl := List.mem_singleton.mp h
      exact Or.inr ⟨hk, Nat.lt_succ_self _⟩
  hist := by
    intro D1 e D2 hsplit
    rcases snoc_eq_append_cons hsplit with ⟨rfl, rfl, rfl⟩ | ⟨D2', rfl, h1⟩
    · exact ⟨inv.graph_eq ▸ hnr, fun _ h => nomatch h⟩
    · obtain ⟨i1, i2⟩ := inv.hist D1 e D2' h1
      refine ⟨i1, fun e' he' => ?_⟩
      rcases List.mem_append.mp he' with h | h
      · exact i2 e' h
      · -- the new edge starts at the position being scanned: at or before every earlier source in `ids`
        rw [List.mem_singleton.mp h]
        rcases inv.scanned e (h1 ▸ List.mem_append_right _ List.mem_cons_self) with s | ⟨s1, s2⟩
        · exact Or.inl (show idxOf ids u < idxOf ids e.src from hk ▸ s)
        · exact Or.inr ⟨hk.trans s1.symm, Nat.lt_of_lt_of_le s2 hb⟩

/-- one pair `(u, v)` of the scan, `u` at the outer position `k` and `v` later in `ids`: the invariant
    moves past `v`, paths are kept, a conflicting pair is joined afterwards, one path check is made -/
theorem augPair_step (ctx : OrdCtx g ids) {st : AugSt} {Dd : List Edge} {k bound : Nat}
    (inv : AInv g decls ids st Dd k bound) {u v : Nat} (hu : u < g.n) (hv : v < g.n)
    (hk : idxOf ids u = k) (hkv : k < idxOf ids v) (hb : bound ≤ idxOf ids v) :
    ∃ Dd', AInv g decls ids (augPair decls u st v) Dd' k (idxOf ids v + 1) ∧
      (∀ x y, Reach st.g x y → Reach (augPair decls u st v).g x y) ∧
      (conflict (declOf decls u) (declOf decls v) = true → Reach (augPair decls u st v).g u v) ∧
      (augPair decls u st v).checks ≤ st.checks + 1 := by
  have hwf := inv.wf ctx
  have hun : u < st.g.n := inv.n ▸ hu
  have hvn : v < st.g.n := inv.n ▸ hv
  cases hp : hasPath st.g u v with
  | true =>
    rw [augPair_skip inv.ok (Or.inl hp)]
    exact ⟨Dd, inv.bump (Nat.le_succ_of_le hb) _, fun _ _ h => h, fun _ => hasPath_sound hp, Nat.le_refl _⟩
  | false =>
    cases hc : conflict (declOf decls u) (declOf decls v) with
    | false =>
      rw [augPair_skip inv.ok (Or.inr hc)]
      exact ⟨Dd, inv.bump (Nat.le_succ_of_le hb) _, fun _ _ h => h, (fun h => nomatch h), Nat.le_refl _⟩
    | true =>
      have hnr : ¬ Reach st.g u v := (hasPath_false_iff hwf hun v).mp hp
      -- no path back either: `v` comes after `u` in `ids`, and every edge of `st.g` points forward
      have hback : hasPath st.g v u = false :=
        (hasPath_false_iff hwf hvn u).mpr fun hr =>
          Nat.lt_irrefl _ (Nat.lt_of_lt_of_le hkv (hk ▸ (inv.fwd_g ctx).reach hr))
      rw [augPair_add inv.ok hp hc
        (updateEdge_fresh .data hun hvn (fun he => hnr (Reach.tail (Reach.refl _) he)) hback)]
      exact ⟨_, inv.add hu hv hk hkv hb hc hnr _, fun _ _ h => Reach.mono_addE h,
        fun _ => Reach.tail (Reach.refl _) (isEdge_addE.mpr (Or.inr ⟨rfl, rfl⟩)), Nat.le_refl _⟩

theorem augInner (ctx : OrdCtx g ids) {u k : Nat} (hu : u < g.n) (hk : idxOf ids u = k) :
    ∀ (L : List Nat) (st : AugSt) (Dd : List Edge) (bound : Nat), AInv g decls ids st Dd k bound →
      L.Pairwise (fun a b => idxOf ids a < idxOf ids b) →
      (∀ v ∈ L, v < g.n ∧ k < idxOf ids v ∧ bound ≤ idxOf ids v) →
      ∃ Dd' bound', AInv g decls ids (L.foldl (augPair decls u) st) Dd' k bound' ∧
        (∀ x y, Reach st.g x y → Reach (L.foldl (augPair decls u) st).g x y) ∧
        (∀ v ∈ L, conflict (declOf decls u) (declOf decls v) = true →
          Reach (L.foldl (augPair decls u) st).g u v) ∧
        (L.foldl (augPair decls u) st).checks ≤ st.checks + L.length := by
  intro L
  induction L with
  | nil =>
    intro st Dd bound inv _ _
    exact ⟨Dd, bound, inv, fun _ _ h => h, (fun v hv => nomatch hv), Nat.le_refl _⟩
  | cons v vs ih =>
    intro st Dd bound inv hpw hall
    rw [List.pairwise_cons] at hpw
    obtain ⟨hvn, hkv, hbv⟩ := hall v List.mem_cons_self
    obtain ⟨Dd1, inv1, mono1, conf1, chk1⟩ := augPair_step ctx inv hu hvn hk hkv hbv
    have hall' : ∀ w ∈ vs, w < g.n ∧ k < idxOf ids w ∧ idxOf ids v + 1 ≤ idxOf ids w := by
      intro w hw
      obtain ⟨a, b, _⟩ := hall w (List.mem_cons_of_mem _ hw)
      exact ⟨a, b, hpw.1 w hw⟩
    obtain ⟨Dd2, b2, inv2, mono2, conf2, chk2⟩ := ih _ Dd1 _ inv1 hpw.2 hall'
    simp only [List.foldl_cons]
    refine ⟨Dd2, b2, inv2, fun x y h => mono2 x y (mono1 x y h), ?_, ?_⟩
    · intro w hw hc
      rcases List.mem_cons.mp hw with rfl | hw
      · exact mono2 _ _ (conf1 hc)
      · exact conf2 w hw hc
    · simp only [List.length_cons]; omega

theorem augOuter_step (ctx : OrdCtx g ids) {st : AugSt} {Dd : List Edge} {k B : Nat} (hk : k < g.n)
    (inv : AInv g decls ids st Dd (k + 1) B) :
    ∃ Dd' B', AInv g decls ids (augOuter decls ids st k) Dd' k B' ∧
      (∀ x y, Reach st.g x y → Reach (augOuter decls ids st k).g x y) ∧
      (∀ a b, a < g.n → b < g.n → idxOf ids a = k → k < idxOf ids b →
        conflict (declOf decls a) (declOf decls b) = true → Reach (augOuter decls ids st k).g a b) ∧
      (augOuter decls ids st k).checks ≤ st.checks + g.n := by
  have hkl : k < ids.length := by rw [ctx.len]; exact hk
  have hu0 : ids[k]?.getD 0 = ids[k] := by rw [List.getElem?_eq_getElem hkl]; rfl
  unfold augOuter
  simp only [hu0]
  have hpk : idxOf ids ids[k] = k := idxOf_getElem ctx.nodup k hkl
  have hpw : ((ids.drop k).filter (fun v => v != ids[k])).Pairwise (fun a b => idxOf ids a < idxOf ids b) :=
    List.Pairwise.sublist (List.filter_sublist.trans (List.drop_sublist k ids)) (pairwise_idxOf_lt ctx.nodup)
  obtain ⟨Dd', B', inv', mono, conf, chk⟩ := augInner ctx ((ctx.mem _).mp (List.getElem_mem hkl)) hpk _ st Dd 0
    inv.next hpw fun v hv => by
      obtain ⟨hm, hlt⟩ := (mem_later ctx.nodup hkl).mp hv
      exact ⟨(ctx.mem v).mp hm, hlt, Nat.zero_le _⟩
  refine ⟨Dd', B', inv', mono, fun a b ha hb hpa hpb hc => ?_, ?_⟩
  · have hab : a = ids[k] := by
      rw [← getElem_idxOf ((ctx.mem a).mpr ha)]; simp only [hpa]
    subst hab
    exact conf b ((mem_later ctx.nodup hkl).mpr ⟨(ctx.mem b).mpr hb, hpb⟩) hc
  · have h1 := List.length_filter_le (fun v => v != ids[k]) (ids.drop k)
    have h2 : (ids.drop k).length ≤ ids.length := by rw [List.length_drop]; exact Nat.sub_le _ _
    rw [ctx.len] at h2
    omega

/-- every conflicting pair whose first member sits at position `≥ k` is joined -/
def Joined (g : Dag) (decls : List FnDecl) (ids : List Nat) (st : AugSt) (k : Nat) : Prop :=
  ∀ a b, a < g.n → b < g.n → k ≤ idxOf ids a → idxOf ids a < idxOf ids b →
    conflict (declOf decls a) (declOf decls b) = true → Reach st.g a b

theorem augOuter_fold (ctx : OrdCtx g ids) : ∀ (m : Nat), m ≤ g.n → ∀ (st : AugSt) (Dd : List Edge) (B : Nat),
    AInv g decls ids st Dd m B → Joined g decls ids st m →
    ∃ Dd' B', AInv g decls ids ((List.range m).reverse.foldl (augOuter decls ids) st) Dd' 0 B' ∧
      Joined g decls ids ((List.range m).reverse.foldl (augOuter decls ids) st) 0 ∧
      ((List.range m).reverse.foldl (augOuter decls ids) st).checks ≤ st.checks + m * g.n := by
  intro m
  induction m with
  | zero =>
    intro _ st Dd B inv hj
    exact ⟨Dd, B, by simpa using inv, by simpa using hj, by simp⟩
  | succ m ih =>
    intro hm st Dd B inv hj
    have hrev : (List.range (m + 1)).reverse = m :: (List.range m).reverse := by
      rw [List.range_succ, List.reverse_append]; rfl
    rw [hrev, List.foldl_cons]
    obtain ⟨Dd1, B1, inv1, mono1, conf1, chk1⟩ := augOuter_step (decls := decls) ctx (hm : m < g.n) inv
    have hj1 : Joined g decls ids (augOuter decls ids st m) m := by
      intro a b ha hb hpa hpb hc
      rcases Nat.eq_or_lt_of_le hpa with h | h
      · exact conf1 a b ha hb h.symm (h ▸ hpb) hc
      · exact mono1 _ _ (hj a b ha hb h hpb hc)
    obtain ⟨Dd2, B2, inv2, hj2, chk2⟩ := ih (Nat.le_of_succ_le hm) _ Dd1 B1 inv1 hj1
    refine ⟨Dd2, B2, inv2, hj2, ?_⟩
    rw [Nat.succ_mul]
    omega

/-- a data edge is not implied by the other edges: a path from its source to its target in the
    graph without it would already have existed when it was inserted -/
theorem AInv.not_redundant (ctx : OrdCtx g ids) {st : AugSt} {Dd : List Edge} {k b : Nat}
    (inv : AInv g decls ids st Dd k b) {D1 D2 : List Edge} {e : Edge} (hsplit : Dd = D1 ++ e :: D2) :
    ¬ Reach ⟨g.n, g.edges ++ D1 ++ D2⟩ e.src e.tgt := by
  obtain ⟨h1, h2⟩ := inv.hist D1 e D2 hsplit
  have hsub : ∀ x y, IsEdge ⟨g.n, g.edges ++ D1 ++ D2⟩ x y → IsEdge st.g x y := by
    rintro x y ⟨e', hm, hs, ht⟩
    refine ⟨e', ?_, hs, ht⟩
    rw [inv.edges, hsplit]
    simp only [List.mem_append, List.mem_cons] at hm ⊢
    rcases hm with (h | h) | h
    · exact Or.inl h
    · exact Or.inr (Or.inl h)
    · exact Or.inr (Or.inr (Or.inr h))
  have hfwd : Fwd ⟨g.n, g.edges ++ D1 ++ D2⟩ (idxOf ids) := (inv.fwd_g ctx).anti hsub
  -- an edge of `D2` cannot lie on a forward path from `e.src` that ends at or before `e.tgt`: by
  -- `hist` it starts before `e.src`, or it starts at `e.src` and ends past `e.tgt`
  have key : ∀ s y, Reach ⟨g.n, g.edges ++ D1 ++ D2⟩ s y → s = e.src → idxOf ids y ≤ idxOf ids e.tgt →
      Reach ⟨g.n, g.edges ++ D1⟩ s y := by
    intro s y hr
    induction hr with
    | refl => intro _ _; exact Reach.refl _
    | @tail w y hr he ih =>
      intro hs hy
      have hwy := hfwd _ _ he
      have h3 := ih hs (by omega)
      have hsw := hfwd.reach hr
      obtain ⟨e', hm, rfl, rfl⟩ := he
      simp only [List.mem_append] at hm
      rcases hm with hm | hm
      · exact Reach.tail h3 ⟨e', by simpa using hm, rfl, rfl⟩
      · exfalso
        subst hs
        rcases h2 e' hm with h | ⟨_, h⟩
        · omega
        · omega
  exact fun hr => h1 (key _ _ hr rfl (Nat.le_refl _))

end FG
