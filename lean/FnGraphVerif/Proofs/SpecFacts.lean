/-
  Proofs/SpecFacts.lean — Boolean helpers of `Model/Spec.lean` read as propositions: `reachPlus`,
  `isPermOfRange`, `topoOrderB` (`isAcyclicB`, `simpleB`: `Theorems/SpecLink.lean`).
-/
import FnGraphVerif.Model.Spec
import FnGraphVerif.Proofs.Reach
namespace FG

/-- no well-formedness needed -/
theorem reachPlus_sound {g : Dag} {u v : Nat} (h : reachPlus g u v = true) : ReachP g u v := by
  unfold reachPlus at h
  rw [List.any_eq_true] at h
  obtain ⟨w, hw, hp⟩ := h
  exact ReachP.head (mem_children.mp hw) (hasPath_sound hp)

theorem isPermOfRange_iff {l : List Nat} {n : Nat} : isPermOfRange l n = true ↔ l.Perm (List.range n) := by
  unfold isPermOfRange
  simp only [Bool.and_eq_true, beq_iff_eq, List.all_eq_true, List.mem_range, decide_eq_true_eq]
  constructor
  · rintro ⟨hlen, hall⟩
    have hsp : (List.range n).Subperm l :=
      List.nodup_range.subperm fun v hv => hall v (List.mem_range.mp hv)
    exact (hsp.perm_of_length_le (by simp [hlen])).symm
  · intro h
    exact ⟨by simpa using h.length_eq, fun v hv => h.mem_iff.mpr (List.mem_range.mpr hv)⟩

theorem topoOrderB_iff {g : Dag} {l : List Nat} :
    topoOrderB g l = true ↔ l.Perm (List.range g.n) ∧ Fwd g (idxOf l) := by
  unfold topoOrderB
  rw [Bool.and_eq_true, isPermOfRange_iff, List.all_eq_true]
  refine and_congr_right fun _ => ⟨?_, fun h e he => decide_eq_true (h _ _ ⟨e, he, rfl, rfl⟩)⟩
  rintro h u v ⟨e, he, rfl, rfl⟩
  exact of_decide_eq_true (h e he)

end FG
