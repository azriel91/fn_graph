/-
  Proofs/CouplingFacts.lean — model facts the monitor couplings (`Proofs/PredCoupling.lean`,
  `Proofs/TrackStep.lean`) use, for runs from `initWith c s0 r0 k0` (`ReachableW`; `init` is the case
  `false false 0`): runs without `interrupt` see no signal; the "last invoked" invariant of sequential runs
  (for the `try_fold` predicate); the first step from `init` is visible; what `stepEvents` shows of a
  `schedPoll` and of the return, and that only `interrupt` shows `intr`.
-/
import FnGraphVerif.Proofs.ProtoLive
import FnGraphVerif.Proofs.IntrCompose
import FnGraphVerif.Proofs.Fwd
import FnGraphVerif.Proofs.NoteSpecs
namespace FG

variable {c : Cfg} {s s' s1 : PState} {s0 r0 : Bool} {k0 : Nat}

theorem run_noSignal {as : List Action} {s sF : PState} (has : ∀ a ∈ as, a ≠ Action.interrupt)
    (hp : s.im.NoSignal) (h : run c s as = some sF) : sF.im.NoSignal :=
  run_rel (R := fun s s' => s.im.NoSignal → s'.im.NoSignal) (fun _ h => h) (fun h1 h2 h => h2 (h1 h))
    (fun ha hs hp => noSignal_step ha hp hs) has h hp

theorem noSignal_initWith (c : Cfg) (k0 : Nat) : (initWith c false false k0).im.NoSignal := ⟨rfl, rfl, rfl, rfl⟩

/-- `short` is what the `try_fold` note `realInvoked.getLast? = some f` at `retErr` needs; `infl` is the
    strengthening that makes `short` inductive at `finish` -/
structure SeqLast (s : PState) : Prop where
  infl : ∀ f ∈ s.inflight, f ∈ s.invoked → s.invoked.getLast? = some f
  short : ∀ f, s.shortErr = some f → s.invoked.getLast? = some f

theorem seqLast_step (hseq : c.sequential = true) (hinv : Inv c s) {a : Action}
    (hi : SeqLast s) (h : step? c s a = some s') : SeqLast s' := by
  cases a with
  | queuerRecv => obtain ⟨_, _, x, rest, _, rfl⟩ := step_queuerRecv_iff.mp h; exact ⟨hi.infl, hi.short⟩
  | queuerEnd => obtain ⟨_, _, _, rfl⟩ := step_queuerEnd_iff.mp h; exact ⟨hi.infl, hi.short⟩
  | schedEnd => obtain ⟨_, _, _, rfl⟩ := step_schedEnd_iff.mp h; exact ⟨hi.infl, hi.short⟩
  | ret => obtain ⟨_, _, _, rfl⟩ := step_ret_iff.mp h; exact ⟨hi.infl, hi.short⟩
  | interrupt => have := step_interrupt_iff.mp h; subst this; exact ⟨hi.infl, hi.short⟩
  | schedPoll =>
    obtain ⟨_, _, h3⟩ := schedPoll_shapes h
    rcases h3 with ⟨m, se, rx, dtx, rfl⟩ | ⟨m, ca, f, rest, hq, rfl⟩ | ⟨m, f, rest, hq, rfl⟩
    · exact ⟨hi.infl, hi.short⟩
    · refine ⟨?_, hi.short⟩
      intro g hg hgi
      simp only [handOut, List.mem_append, List.mem_singleton] at hg
      rcases hg with hg | rfl
      · exact hi.infl g hg hgi
      · exact absurd (hinv.invHanded g hgi) (hinv.toInv0.head_not_handed hq).2.1
    · exact ⟨hi.infl, hi.short⟩
  | invoke f =>
    obtain ⟨hf1, hf2, rfl⟩ := step_invoke_iff.mp h
    refine ⟨?_, ?_⟩
    · intro g hg _
      -- `f` and `g` are both in flight, and at most one function is in flight
      have : g = f := eq_of_mem_of_length_le_one (hinv.limSeq hseq) hg hf1
      subst this
      simp
    · intro g hg
      have hsd := hinv.shortDone (by rw [hg]; rfl)
      have := hinv.sDoneInfl hsd
      rw [this] at hf1
      cases hf1
  | finish f ok =>
    obtain ⟨⟨hf1, hf2, _⟩, rfl⟩ := step_finish_iff.mp h
    refine ⟨fun g hg => hi.infl g (List.mem_of_mem_erase hg), ?_⟩
    intro g hg
    -- `shortErr` is `f` after a short-circuiting failure and what it was otherwise
    rw [finW_shortErr] at hg
    split at hg
    · cases hg; exact hi.infl f hf1 hf2
    · exact hi.short g hg

theorem seqLast_reachableW (hc : GoodCfg c) (hseq : c.sequential = true) (hr : ReachableW c s0 r0 k0 s) :
    SeqLast s := by
  induction hr with
  | refl => exact ⟨by simp [initWith, init], by simp [initWith, init]⟩
  | step a hr' h ih => exact seqLast_step hseq (inv_reachableW hc (fun _ => hseq) hr') ih h

theorem preload_ne_nil (hc : GoodCfg c) (hn : c.n ≠ 0) : preload c ≠ [] := by
  obtain ⟨r, hr, hp⟩ := exists_root hc.wf hc.acyclic hn
  have := (hc.preMem r).mpr ⟨hr, hp⟩
  intro h
  rw [h] at this
  cases this

theorem init_step_visible (hc : GoodCfg c) (hn : c.n ≠ 0) (ctl : Bool) {a : Action} {s1 : PState}
    (h : step? c (init c) a = some s1) : stepEvents c ctl (init c) a s1 ≠ [] := by
  have hn' : (c.n != 0) = true := by simpa using hn
  cases a with
  | queuerRecv => obtain ⟨_, _, x, rest, hq, _⟩ := step_queuerRecv_iff.mp h; simp [init] at hq
  | queuerEnd => obtain ⟨_, hd, _, _⟩ := step_queuerEnd_iff.mp h; simp [init, hn'] at hd
  | schedEnd => obtain ⟨hse, _, _, _⟩ := step_schedEnd_iff.mp h; simp [init] at hse
  | ret => obtain ⟨hsd, _, _, _⟩ := step_ret_iff.mp h; simp [init] at hsd
  | interrupt => simp [stepEvents]
  | invoke f => simp [stepEvents]
  | finish f ok => simp [stepEvents]
  | schedPoll =>
    have h4 := spApply_eq_some (step_schedPoll_iff.mp h).2.2.2
    have hne := preload_ne_nil hc hn
    have hu : readyUnder (init c) = .item := by
      unfold readyUnder
      have : (init c).readyQ = preload c := rfl
      rw [this]
      cases hp : preload c with
      | nil => exact absurd hp hne
      | cons a l => rfl
    have him : (init c).im = {} := rfl
    rw [hu, him, pollNext_init_item] at h4
    rcases h4 with ⟨h4, _⟩ | ⟨h4, _⟩ | ⟨h4, _⟩ | ⟨_, f, rest, _, rfl⟩ | ⟨h4, _⟩
    · cases h4
    · cases h4
    · cases h4
    · simp [stepEvents, handOut, init]
    · cases h4

theorem stepEvents_poll_same {c : Cfg} {s s1 : PState} (ctl : Bool) (h : s1.handedOut = s.handedOut) :
    stepEvents c ctl s .schedPoll s1 = [] := by
  simp [stepEvents, h]

theorem stepEvents_poll_snoc {c : Cfg} {s s1 : PState} (ctl : Bool) {g : Nat}
    (h : s1.handedOut = s.handedOut ++ [g]) : stepEvents c ctl s .schedPoll s1 = [.handout g] := by
  simp [stepEvents, h]

theorem stepEvents_ret_err {c : Cfg} {ctl : Bool} {s s1 : PState} {f : Nat} (h : s1.result = some (.err f)) :
    stepEvents c ctl s .ret s1 = [.retErr f] := by
  simp only [stepEvents, h]

theorem stepEvents_ret_outcome {c : Cfg} {ctl : Bool} {s s1 : PState} {fnd : Bool} {p np errs : List Nat}
    (h : s1.result = some (.outcome fnd p np errs)) :
    stepEvents c ctl s .ret s1 =
      [.retOutcome fnd p np errs
        (if ctl then (if (Ret.outcome fnd p np errs).isBreak then "break" else "cont") else "na")] := by
  simp only [stepEvents, h]

theorem stepEvents_no_intr {c : Cfg} {ctl : Bool} {a : Action} (ha : a ≠ .interrupt) :
    Ev.intr ∉ stepEvents c ctl s a s1 := by
  cases a with
  | interrupt => exact absurd rfl ha
  | schedPoll => exact fun h => by obtain ⟨f, _, hf⟩ := List.mem_map.mp h; cases hf
  | ret => simp only [stepEvents]; split <;> simp
  | _ => simp [stepEvents]

theorem stepEvents_schedPoll {c : Cfg} {ctl : Bool} (hs : step? c s .schedPoll = some s1) :
    (stepEvents c ctl s .schedPoll s1 = [] ∧ ListsStep s s1 [] [] [] []) ∨
    ∃ f rest, s.readyQ = f :: rest ∧ stepEvents c ctl s .schedPoll s1 = [.handout f] ∧
      ListsStep s s1 [f] [] [] [] := by
  rcases ListsStep.schedPoll hs with hl | ⟨f, rest, hq, hl⟩
  · exact .inl ⟨stepEvents_poll_same ctl (hl.ho.trans (List.append_nil _)), hl⟩
  · exact .inr ⟨f, rest, hq, stepEvents_poll_snoc ctl hl.ho, hl⟩

theorem stepEvents_invoke (c : Cfg) (ctl : Bool) (s s1 : PState) (f : Nat) :
    stepEvents c ctl s (.invoke f) s1 = [.invoke f] := rfl

theorem stepEvents_finish (c : Cfg) (ctl : Bool) (s s1 : PState) (f : Nat) (ok : Bool) :
    stepEvents c ctl s (.finish f ok) s1 = [.fin f ok] := rfl

theorem stepEvents_interrupt (c : Cfg) (ctl : Bool) (s s1 : PState) :
    stepEvents c ctl s .interrupt s1 = [.intr] := rfl

theorem stepEvents_ret_cases (c : Cfg) (ctl : Bool) (s s1 : PState) :
    stepEvents c ctl s .ret s1 = [] ∨ (∃ f, stepEvents c ctl s .ret s1 = [.retErr f]) ∨
    ∃ fnd p np errs fl, stepEvents c ctl s .ret s1 = [.retOutcome fnd p np errs fl] := by
  cases h : s1.result with
  | none => exact .inl (by simp only [stepEvents, h])
  | some r =>
    cases r with
    | err f => exact .inr (.inl ⟨f, stepEvents_ret_err h⟩)
    | outcome fnd p np errs => exact .inr (.inr ⟨_, _, _, _, _, stepEvents_ret_outcome h⟩)

/-- what the events of `evs` append to the observed lists -/
structure ObsLists (evs : List Ev) (ho inv eok fl : List Nat) : Prop where
  ho : evs.filterMap Ev.handout? = ho
  inv : evs.filterMap Ev.invoke? = inv
  eok : evs.filterMap Ev.endedOk? = eok
  fl : evs.filterMap Ev.failed? = fl

theorem ObsLists.nil : ObsLists [] [] [] [] [] := ⟨rfl, rfl, rfl, rfl⟩

/-- the events a step shows carry exactly what the step appends to the observed lists -/
theorem stepEvents_lists {c : Cfg} {ctl : Bool} {a : Action} (hs : step? c s a = some s1) :
    ∃ ho inv eok fl, ListsStep s s1 ho inv eok fl ∧ ObsLists (stepEvents c ctl s a s1) ho inv eok fl := by
  cases a with
  | queuerRecv => exact ⟨_, _, _, _, .queuerRecv hs, .nil⟩
  | queuerEnd => exact ⟨_, _, _, _, .queuerEnd hs, .nil⟩
  | schedEnd => exact ⟨_, _, _, _, .schedEnd hs, .nil⟩
  | interrupt => exact ⟨_, _, _, _, .interrupt hs, ⟨rfl, rfl, rfl, rfl⟩⟩
  | invoke f => exact ⟨_, _, _, _, .invoke hs, ⟨rfl, rfl, rfl, rfl⟩⟩
  | finish f ok =>
    refine ⟨_, _, _, _, .finish hs, ?_⟩
    cases ok <;> exact ⟨rfl, rfl, rfl, rfl⟩
  | schedPoll =>
    rcases stepEvents_schedPoll (ctl := ctl) hs with ⟨hev, hl⟩ | ⟨f, _, _, hev, hl⟩
    · exact ⟨_, _, _, _, hl, hev ▸ .nil⟩
    · exact ⟨_, _, _, _, hl, hev ▸ ⟨rfl, rfl, rfl, rfl⟩⟩
  | ret =>
    refine ⟨_, _, _, _, .ret hs, ?_⟩
    rcases stepEvents_ret_cases c ctl s s1 with h | ⟨f, h⟩ | ⟨fnd, p, np, errs, fl, h⟩ <;> rw [h] <;>
      exact ⟨rfl, rfl, rfl, rfl⟩

end FG
