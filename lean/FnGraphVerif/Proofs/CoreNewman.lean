/-
  Proofs/CoreNewman.lean — every state-changing core action decreases `mu`; runs of core actions and the equivalences
  they respect (`CoreEquiv`); Newman's lemma modulo `Sim`: all normal forms reachable from a reachable
  state are `Sim`-equal.
-/
import FnGraphVerif.Proofs.CoreSim
import FnGraphVerif.Proofs.LiveMeasure
namespace FG
variable {c : Cfg} {s s' t : PState}

theorem mu_core (hinv' : Inv0 c s') (a : CA) (h : step? c s a.act = some s') (hne : s' ≠ s) :
    mu c s' < mu c s :=
  mu_step hinv' a.act_internal h (fun _ => hne)

def crun (c : Cfg) (s : PState) (as : List CA) : Option PState := run c s (as.map CA.act)

theorem crun_nil : crun c s [] = some s := rfl

theorem crun_append {as bs : List CA} {s1 : PState} (h : crun c s as = some s1) :
    crun c s (as ++ bs) = crun c s1 bs := by
  simp only [crun, List.map_append]
  exact run_append_of h

theorem crun_cons_iff {a : CA} {as : List CA} {q : PState} :
    crun c s (a :: as) = some q ↔ ∃ s1, step? c s a.act = some s1 ∧ crun c s1 as = some q :=
  run_cons_iff

/-- the ready receiver, once dropped, is never polled again -/
theorem rrx_of_reachable (hc : GoodCfg c) (hr : Reachable c s) : s.readyRxOpen = false → spBlocked c s = true := by
  intro hrx
  unfold spBlocked
  rcases (linv_reachable hc hr).rrx hrx with h | h <;> simp [h]

/-- an equivalence on states that is a strong bisimulation for the core actions on reachable states;
    `Sim` is one, `SimC` (`Proofs/SimC.lean`) another -/
structure CoreEquiv (c : Cfg) (E : PState → PState → Prop) : Prop where
  refl : ∀ s, E s s
  symm : ∀ {s t}, E s t → E t s
  trans : ∀ {s t u}, E s t → E t u → E s u
  step : ∀ {s t s'} (a : CA), Reachable c s → Reachable c t → E s t → step? c s a.act = some s' →
    ∃ t', step? c t a.act = some t' ∧ E s' t'

theorem coreEquiv_sim (hc : GoodCfg c) : CoreEquiv c Sim :=
  ⟨Sim.refl, Sim.symm, Sim.trans, fun a hrs _ h hs => sim_step a h (rrx_of_reachable hc hrs) hs⟩

/-- normal form modulo `E`: no core action leads out of the `E`-class -/
def NFE (E : PState → PState → Prop) (c : Cfg) (s : PState) : Prop :=
  ∀ (a : CA) (s' : PState), step? c s a.act = some s' → E s' s

/-- `NFE Sim`, by `rfl`: what `CoreEquiv.nf` / `nf_run` return at `E := Sim` is used as `NF` -/
def NF (c : Cfg) (s : PState) : Prop := ∀ (a : CA) (s' : PState), step? c s a.act = some s' → Sim s' s

section
variable {E : PState → PState → Prop}

theorem CoreEquiv.lift (hE : CoreEquiv c E) {as : List CA} : ∀ {s t s' : PState}, Reachable c s →
    Reachable c t → E s t → crun c s as = some s' → ∃ t', crun c t as = some t' ∧ E s' t' := by
  induction as with
  | nil => intro s t s' _ _ hs h; cases h; exact ⟨t, rfl, hs⟩
  | cons a as ih =>
    intro s t s' hrs hrt hs h
    obtain ⟨s1, h1, h⟩ := crun_cons_iff.mp h
    obtain ⟨t1, ht1, hs1⟩ := hE.step a hrs hrt hs h1
    obtain ⟨t', ht', hs'⟩ := ih (Reachable.step _ hrs h1) (Reachable.step _ hrt ht1) hs1 h
    exact ⟨t', crun_cons_iff.mpr ⟨t1, ht1, ht'⟩, hs'⟩

theorem CoreEquiv.nf (hE : CoreEquiv c E) (hn : NFE E c s) (hs : E s t) (hrs : Reachable c s)
    (hrt : Reachable c t) : NFE E c t := by
  intro a t' ht
  obtain ⟨s1, hs1, hsim⟩ := hE.step a hrt hrs (hE.symm hs) ht
  exact hE.trans (hE.trans hsim (hn a s1 hs1)) hs

theorem CoreEquiv.nf_run (hE : CoreEquiv c E) {bs : List CA} : ∀ {s q : PState}, NFE E c s →
    Reachable c s → crun c s bs = some q → E q s := by
  induction bs with
  | nil => intro s q _ _ h; cases h; exact hE.refl _
  | cons b bs ih =>
    intro s q hn hr h
    obtain ⟨s1, h1, h⟩ := crun_cons_iff.mp h
    have hr1 := Reachable.step _ hr h1
    have hs1 := hn b s1 h1
    exact hE.trans (ih (hE.nf hn (hE.symm hs1) hr hr1) hr1 h) hs1

end

/-- two states can be joined by core runs, modulo `Sim` -/
def Join (c : Cfg) (s1 s2 : PState) : Prop :=
  ∃ (as bs : List CA) (t1 t2 : PState), crun c s1 as = some t1 ∧ crun c s2 bs = some t2 ∧ Sim t1 t2

theorem Join.symm {s1 s2 : PState} (h : Join c s1 s2) : Join c s2 s1 := by
  obtain ⟨as, bs, t1, t2, h1, h2, hs⟩ := h
  exact ⟨bs, as, t2, t1, h2, h1, hs.symm⟩

theorem Join.refl (s : PState) : Join c s s := ⟨[], [], s, s, rfl, rfl, Sim.refl _⟩

/-- local confluence modulo `Sim` (proved in `Proofs/CoreDiamond.lean`) -/
def LocalConf (c : Cfg) : Prop :=
  ∀ s, Reachable c s → ∀ (a b : CA) (s1 s2 : PState), step? c s a.act = some s1 → step? c s b.act = some s2 →
    Join c s1 s2

/-- a run either stays in the `Sim`-class of its start or can be rearranged to start with a
    class-changing step -/
theorem strip (hc : GoodCfg c) (hr : Reachable c s) {as : List CA} : ∀ {q : PState}, crun c s as = some q →
    Sim q s ∨ ∃ (a : CA) (s1 : PState) (as1 : List CA) (q' : PState), step? c s a.act = some s1 ∧ ¬ Sim s1 s ∧ crun c s1 as1 = some q' ∧ Sim q' q := by
  induction as with
  | nil => intro q h; cases h; exact Or.inl (Sim.refl _)
  | cons a as ih =>
    intro q h
    obtain ⟨s1, h1, h⟩ := crun_cons_iff.mp h
    by_cases hsim : Sim s1 s
    · obtain ⟨q2, hq2, hs2⟩ := (coreEquiv_sim hc).lift (Reachable.step _ hr h1) hr hsim h
      rcases ih hq2 with h3 | ⟨b, s2, as1, q', hb, hns, hrun, hs3⟩
      · exact Or.inl (hs2.trans h3)
      · exact Or.inr ⟨b, s2, as1, q', hb, hns, hrun, hs3.trans hs2.symm⟩
    · exact Or.inr ⟨a, s1, as, q, h1, hsim, h, Sim.refl _⟩

theorem nf_of_mu_zero (hc : GoodCfg c) (hr : Reachable c s) (h : mu c s ≤ 0) : NF c s := by
  intro a s' hs
  by_cases he : s' = s
  · rw [he]; exact Sim.refl _
  · have := mu_core (inv0_reachable hc (Reachable.step _ hr hs)) a hs he
    omega

theorem nf_exists (hc : GoodCfg c) : ∀ (n : Nat) {t : PState}, mu c t ≤ n → Reachable c t →
    ∃ as r, crun c t as = some r ∧ NF c r := by
  intro n
  induction n with
  | zero =>
    intro t hn hr
    exact ⟨[], t, rfl, nf_of_mu_zero hc hr hn⟩
  | succ n ih =>
    intro t hn hr
    by_cases hnf : NF c t
    · exact ⟨[], t, rfl, hnf⟩
    · simp only [NF, not_forall] at hnf
      obtain ⟨a, t', ht, hns⟩ := hnf
      have hne : t' ≠ t := fun he => hns (he ▸ Sim.refl _)
      have hr' := Reachable.step _ hr ht
      have hmu := mu_core (inv0_reachable hc hr') a ht hne
      obtain ⟨as, r, hrun, hnfr⟩ := ih (by omega) hr'
      exact ⟨a :: as, r, crun_cons_iff.mpr ⟨t', ht, hrun⟩, hnfr⟩

theorem newman (hc : GoodCfg c) (hlc : LocalConf c) : ∀ (n : Nat) {s : PState}, mu c s ≤ n → Reachable c s →
    ∀ {as bs : List CA} {q q2 : PState}, crun c s as = some q → NF c q → crun c s bs = some q2 → NF c q2 →
      Sim q q2 := by
  intro n
  induction n with
  | zero =>
    intro s hn hr as bs q q2 h1 hq h2 hq2
    have hS := coreEquiv_sim hc
    have hnf := nf_of_mu_zero hc hr hn
    exact (hS.nf_run hnf hr h1).trans (hS.nf_run hnf hr h2).symm
  | succ n ih =>
    -- after `strip` both runs start with a class-changing step, so `mu` drops; close the peak with
    -- `LocalConf`, run on to a normal form, and use the induction hypothesis on both sides
    intro s hn hr as bs q q2 h1 hq h2 hq2
    have hS := coreEquiv_sim hc
    have hrq := hr.of_run h1
    have hrq2 := hr.of_run h2
    rcases strip hc hr h1 with hs1 | ⟨a, s1, as1, q', ha, hns1, hrun1, hsq⟩
    · exact hs1.trans (hS.nf_run (hS.nf hq hs1 hrq hr) hr h2).symm
    rcases strip hc hr h2 with hs2 | ⟨b, s2, bs1, q2', hb, hns2, hrun2, hsq2⟩
    · exact (hS.nf_run (hS.nf hq2 hs2 hrq2 hr) hr h1).trans hs2.symm
    have hr1 := Reachable.step _ hr ha
    have hr2 := Reachable.step _ hr hb
    have hne1 : s1 ≠ s := fun he => hns1 (he ▸ Sim.refl _)
    have hne2 : s2 ≠ s := fun he => hns2 (he ▸ Sim.refl _)
    have hmu1 := mu_core (inv0_reachable hc hr1) a ha hne1
    have hmu2 := mu_core (inv0_reachable hc hr2) b hb hne2
    have hq' : NF c q' := hS.nf hq hsq.symm hrq (hr1.of_run hrun1)
    have hq2' : NF c q2' := hS.nf hq2 hsq2.symm hrq2 (hr2.of_run hrun2)
    obtain ⟨cs, ds, t1, t2, hc1, hc2, hst⟩ := hlc s hr a b s1 s2 ha hb
    have hrt1 := hr1.of_run hc1
    have hrt2 := hr2.of_run hc2
    obtain ⟨es, r1, he1, hnr1⟩ := nf_exists hc _ (Nat.le_refl _) hrt1
    obtain ⟨r2, he2, hsr⟩ := hS.lift hrt1 hrt2 hst he1
    have hnr2 : NF c r2 := hS.nf hnr1 hsr (hrt1.of_run he1) (hrt2.of_run he2)
    have hA : Sim q' r1 := ih (by omega) hr1 hrun1 hq' (by rw [crun_append hc1]; exact he1) hnr1
    have hB : Sim q2' r2 := ih (by omega) hr2 hrun2 hq2' (by rw [crun_append hc2]; exact he2) hnr2
    exact ((hsq.symm.trans hA).trans hsr).trans (hB.symm.trans hsq2)

theorem core_confluence (hc : GoodCfg c) (hlc : LocalConf c) (hr : Reachable c s) {as bs : List CA}
    {q q2 : PState} (h1 : crun c s as = some q) (hq : NF c q) (h2 : crun c s bs = some q2) (hq2 : NF c q2) :
    Sim q q2 :=
  newman hc hlc _ (Nat.le_refl _) hr h1 hq h2 hq2

end FG
