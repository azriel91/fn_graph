/-
  Proofs/RSearch.lean — exhaustive search (by `#eval`) for runs of the STREAM model that falsify a
  predicate of `predStream`: all acyclic graphs on ≤ 3 nodes, all strategies, both values of
  `interruptible`, every enabled action list up to a bounded length.
-/
import FnGraphVerif.Proofs.TraceDefs
import FnGraphVerif.Proofs.ExampleCfgs
namespace FG.RSearch
open FG

/-- all edge sets over the unordered pairs of `{0..n-1}`: each pair absent / forward / backward -/
def pairsOf (n : Nat) : List (Nat × Nat) :=
  (List.range n).flatMap (fun u => ((List.range n).filter (fun v => decide (u < v))).map (fun v => (u, v)))

def edgeSets : List (Nat × Nat) → List (List Edge)
  | [] => [[]]
  | (u, v) :: rest =>
    (edgeSets rest).flatMap (fun es => [es, ⟨u, v, .logic⟩ :: es, ⟨v, u, .logic⟩ :: es])

def dags (n : Nat) : List Dag :=
  ((edgeSets (pairsOf n)).map (fun es => (⟨n, es⟩ : Dag))).filter isAcyclicB

def cfgOf (g : Dag) (st : Strat) : Cfg :=
  { D := g, counts0 := (List.range g.n).map (fun v => (parents g v).length), strat := st }

/-- declarations in which two functions conflict iff they are ordered by the graph -/
def declsOf (g : Dag) : List FnDecl :=
  (List.range g.n).map (fun u =>
    { reads := [], writes := ((List.range g.n).flatMap (fun a => (List.range g.n).filterMap (fun b =>
        if (a == u || b == u) && reachPlus g a b then some (a * g.n + b) else none))) })

def ctxOf (g : Dag) (st : Strat) (intr : Bool) : MonCtx :=
  { c := cfgOf g st, decls := declsOf g, userD := g, rev := false, control := false,
    interruptible := intr, coop := false }

def actionsOf_R (n : Nat) : List SAction :=
  [.poll, .interrupt, .dropStream] ++ (List.range n).map SAction.drop

def runPreds (x : MonCtx) (m : SPredSt) : List Ev → SPredSt × List Note
  | [] => (m, [])
  | e :: es => let r := predStream x false m e; let r' := runPreds x r.1 es; (r'.1, r.2 ++ r'.2)

structure Hit where
  g : Dag
  strat : Strat
  intr : Bool
  acts : List SAction
  note : Note
  deriving Repr

/-- depth-first search; returns the failing notes with the action list that led there -/
def dfs (x : MonCtx) : Nat → SState → SPredSt → List SAction → Nat → List Hit
  | 0, _, _, _, _ => []
  | depth + 1, s, m, acts, nIntr =>
  (actionsOf_R x.c.n).flatMap (fun a =>
    if a == .interrupt && nIntr ≥ 2 then [] else
    match sstep? x.c true s a with
    | none => []
    | some s' =>
      let r := runPreds x m (sStepEvents x.c s a)
      let bad := r.2.filter (fun n => !n.ok)
      let here := bad.map (fun n => (⟨x.c.D, x.c.strat, x.interruptible, (a :: acts).reverse, n⟩ : Hit))
      -- do not continue below a failure: we want shortest witnesses
      if !here.isEmpty then here else
      dfs x depth s' r.1 (a :: acts) (if a == .interrupt then nIntr + 1 else nIntr))

def strats_R : List Strat := [.non, .ignore, .finish, .pollN 0, .pollN 1, .pollN 2]

def noteKey (n : Note) : String :=
  match n with
  | .prop p w _ => p ++ " | " ++ (if (w.splitOn "none-iff-all").length > 1 then "none-iff-all"
      else if (w.splitOn "wake-after-drop").length > 1 then "wake-after-drop"
      else if (w.splitOn "not-after-end").length > 1 then "not-after-end"
      else if (w.splitOn "clean stream").length > 1 then "clean-stream"
      else if (w.splitOn "built-graph").length > 1 then "built-graph"
      else if (w.splitOn "pending").length > 1 then "pending"
      else if (w.splitOn "panic").length > 1 then "panic"
      else "yield")
  | .cmp f w _ _ => f ++ w

def stratKey : Strat → String
  | .non => "non" | .ignore => "ignore" | .finish => "finish" | .pollN k => s!"pollN {k}"

def search (maxN depth : Nat) : List Hit :=
  (List.range (maxN + 1)).flatMap (fun n => (dags n).flatMap (fun g => strats_R.flatMap (fun st =>
    [true, false].flatMap (fun intr =>
      let x := ctxOf g st intr
      dfs x depth (sinit x.c) {} [] 0))))

/-- one shortest witness per (predicate, strategy, interruptible) -/
def summarize (hs : List Hit) : List (String × Hit) :=
  hs.foldl (fun acc h =>
    let k := noteKey h.note ++ " | " ++ stratKey h.strat ++ " | intr=" ++ toString h.intr
    match acc.find? (fun p => p.1 == k) with
    | some (_, h0) => if h.acts.length < h0.acts.length then (acc.filter (fun p => p.1 != k)) ++ [(k, h)] else acc
    | none => acc ++ [(k, h)]) []

-- every configuration searched satisfies the decidable sufficient condition for `GoodCfg`? (only
-- index-increasing ones do; the others are relabelings, `Cfg.check` is merely sufficient)
#eval (List.range 4).map (fun n => ((dags n).length, ((dags n).filter (fun g => (cfgOf g .non).check)).length))

end FG.RSearch

namespace FG.RSearch

/- RESULT (depth 9, ≤ 3 nodes, ≤ 2 signals per run, 31 graphs × 6 strategies × 2): the only
    predicate that fails on a model run is `C05 none-iff-all`, and only in contexts with
    `interruptible = false` under an interrupting strategy (`finish`, `pollN k`) after a signal:
    shortest witness `[interrupt, poll, poll]`.  (About 27 s.) -/
#eval (summarize (search 3 9)).map (fun p => (p.1, toString (repr p.2.g.edges), toString (repr p.2.acts), toString (repr p.2.note)))

/-! coverage: how often each predicate was evaluated during such a search (so "no failure" is not vacuous) -/

def bump (acc : List (String × Nat)) (k : String) : List (String × Nat) :=
  match acc.find? (fun p => p.1 == k) with
  | some _ => acc.map (fun p => if p.1 == k then (p.1, p.2 + 1) else p)
  | none => acc ++ [(k, 1)]

def cover (x : MonCtx) : Nat → SState → SPredSt → Nat → List (String × Nat) → List (String × Nat)
  | 0, _, _, _, acc => acc
  | depth + 1, s, m, nIntr, acc =>
  (actionsOf_R x.c.n).foldl (fun acc a =>
    if a == .interrupt && nIntr ≥ 2 then acc else
    match sstep? x.c true s a with
    | none => acc
    | some s' =>
      let r := runPreds x m (sStepEvents x.c s a)
      if r.2.any (fun n => !n.ok) then acc else
      let acc := r.2.foldl (fun acc n => bump acc (noteKey n ++
        (match n with | .prop "C08" _ _ => s!" pre={m.intrPre}" | _ => "") ++
        (if s.streamDropped then " (after aborted)" else "") ++
        (if !s.txOpen then " (sender taken)" else ""))) acc
      cover x depth s' r.1 (if a == .interrupt then nIntr + 1 else nIntr) acc) acc

/- RESULT (depth 7): every predicate kind is evaluated thousands of times, e.g. the C08 bound 465 times
   with the signal pending before the first poll (`pre=true`) and 4120 times otherwise; no predicate
   is ever evaluated after `aborted` (polls are disabled, the drop predicate is guarded), and
   `wake-after-drop` never after the stream's own sender was taken (a parked stream holds it). -/
#eval (List.range 4).foldl (fun acc n => (dags n).foldl (fun acc g => strats_R.foldl (fun acc st =>
    [true, false].foldl (fun acc intr =>
      let x := ctxOf g st intr
      cover x 7 (sinit x.c) {} 0 acc) acc) acc) acc) []

end FG.RSearch
