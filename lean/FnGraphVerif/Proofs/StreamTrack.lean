/-
  Proofs/StreamTrack.lean — `trackStream` event by event, the observed runs `SObsRun`, and the two step
  lemmas every theorem about the stream monitor rests on: what `trackStream` does on the event a model
  step shows (`trackStream_of_step`), and that an accepted event of a well-formed trace is the event
  of an enabled step (`step_of_trackStream`).  From them: an accepted well-formed trace is an observed
  run of the stream model (`strack_events_from`; soundness is that with the events forgotten), and
  conversely the monitor follows and accepts every observed run (`strack_follows`,
  `strack_complete_of_noPanic`).
-/
import FnGraphVerif.Proofs.MonitorText
import FnGraphVerif.Proofs.NoteSpecs
import FnGraphVerif.Proofs.PollObs
import FnGraphVerif.Proofs.StreamInv
namespace FG

def Ev.saction? : Ev → Option SAction
  | .poll _ => some .poll
  | .drop f _ => some (.drop f)
  | .intr => some .interrupt
  | .aborted => some .dropStream
  | _ => none

/-- well-formedness of a stream trace, given the `FnRef`s live and whether the stream was dropped at
    its start: every dropped `f` was yielded before (by a poll of the trace, or is in `live`) and not
    dropped since, no poll after `aborted`, `aborted` at most once. -/
def wfStreamFrom : List Nat → Bool → List Ev → Bool
  | _, _, [] => true
  | live, sd, .poll r :: es => !sd && wfStreamFrom (live ++ r.ys) sd es
  | live, sd, .drop f _ :: es => decide (f ∈ live) && wfStreamFrom (live.erase f) sd es
  | live, sd, .aborted :: es => !sd && wfStreamFrom live true es
  | live, sd, _ :: es => wfStreamFrom live sd es

def wfStreamTrace (evs : List Ev) : Bool := wfStreamFrom [] false evs

theorem strackRun_cons (x : MonCtx) (t : STrackSt) (e : Ev) (es : List Ev) :
    strackRun x t (e :: es) =
      ((strackRun x (trackStream x t e).1 es).1, (trackStream x t e).2 ++ (strackRun x (trackStream x t e).1 es).2) :=
  rfl

theorem strackRun_append (x : MonCtx) (t : STrackSt) (es fs : List Ev) :
    strackRun x t (es ++ fs) =
      ((strackRun x (strackRun x t es).1 fs).1, (strackRun x t es).2 ++ (strackRun x (strackRun x t es).1 fs).2) := by
  induction es generalizing t with
  | nil => rfl
  | cons e es ih =>
    rw [List.cons_append, strackRun_cons, strackRun_cons, ih]
    simp only [List.append_assoc]

theorem pollText_eq_text {out : Out} {fo : Option Nat} (w : Bool)
    (h : out = .noInt ∨ out = .intSome → fo.isSome = true) :
    pollText out fo w = (pollObsOf out fo w).text := by
  cases out <;> cases fo <;> simp_all [pollText, pollObsOf]

theorem sipoll_pollText (c : Cfg) (drain : Bool) (s : SState) :
    pollText (sipoll c drain s).2.1 (sipoll c drain s).2.2 (sipoll c drain s).1.wake =
      (sipollObs c drain s).text := by
  apply pollText_eq_text
  intro hout
  rcases (sipollObs_spec c drain s).table with ⟨f, hfo, _⟩ | ⟨_, ⟨h, _⟩ | ⟨h, _⟩ | ⟨h, _⟩⟩
  · rw [hfo]; rfl
  -- without an item the answer is neither `noInt` nor `intSome`
  all_goals rw [h] at hout; rcases hout with h' | h' <;> cases h'

theorem toString_false : toString false = "false" := rfl

theorem isBudgetYield_noncoop {x : MonCtx} (hcoop : x.coop = false) (t : STrackSt) (r : PollObs) :
    isBudgetYield x t r = false := by
  simp [isBudgetYield, hcoop]

theorem trackStream_poll {x : MonCtx} (hcoop : x.coop = false) (t : STrackSt) (r : PollObs) :
    trackStream x t (.poll r) = ({ t with ss := (sipoll x.c true t.ss).1 },
      [.cmp "S-poll" (Ev.poll r).text (pollText (sipoll x.c true t.ss).2.1 (sipoll x.c true t.ss).2.2
          (sipoll x.c true t.ss).1.wake) r.text,
       .cmp "S-poll" ((Ev.poll r).text ++ " panic") (toString (sipoll x.c true t.ss).1.panic) "false"]) := by
  simp [trackStream, isBudgetYield_noncoop hcoop]

theorem trackStream_drop (x : MonCtx) (t : STrackSt) (f : Nat) (w : Bool) :
    trackStream x t (.drop f w) = ({ t with ss := (sdrop x.c t.ss f).getD t.ss },
      [.cmp "S-poll" (Ev.drop f w).text
        s!"woken={if (t.ss.doneRxWaker && !t.ss.streamDropped && decide (t.ss.doneQ.length < x.c.cap)) then 1 else 0}"
        s!"woken={if w then 1 else 0}"]) := rfl

theorem trackStream_intr (x : MonCtx) (t : STrackSt) :
    trackStream x t .intr = ({ t with ss := { t.ss with im := { t.ss.im with sent := true } } }, []) := rfl

theorem trackStream_aborted (x : MonCtx) (t : STrackSt) :
    trackStream x t .aborted = ({ t with ss := sdropStream t.ss }, []) := rfl

/-- the events of a stream trace that denote a model action (`poll`, `drop`, `intr`, `aborted`) -/
def Ev.isStream (e : Ev) : Bool := e.saction?.isSome

theorem trackStream_ignored (x : MonCtx) (t : STrackSt) {e : Ev} (h : e.isStream = false) :
    trackStream x t e = (t, []) := by
  cases e <;> first | rfl | (exfalso; revert h; simp [Ev.isStream, Ev.saction?])

theorem strackRun_filter (x : MonCtx) (evs : List Ev) : ∀ t : STrackSt,
    strackRun x t (evs.filter Ev.isStream) = strackRun x t evs := by
  induction evs with
  | nil => intro t; rfl
  | cons e es ih =>
    intro t
    cases he : e.isStream with
    | true =>
      rw [List.filter_cons_of_pos he, strackRun_cons, strackRun_cons, ih]
    | false =>
      rw [List.filter_cons_of_neg (by simp [he]), strackRun_cons, trackStream_ignored x t he, ih]
      simp

theorem wfStreamFrom_ignored {e : Ev} (h : e.isStream = false) (live : List Nat) (sd : Bool) (es : List Ev) :
    wfStreamFrom live sd (e :: es) = wfStreamFrom live sd es := by
  cases e <;> first | rfl | (exfalso; revert h; simp [Ev.isStream, Ev.saction?])

theorem wfStreamFrom_filter (evs : List Ev) : ∀ (live : List Nat) (sd : Bool),
    wfStreamFrom live sd (evs.filter Ev.isStream) = wfStreamFrom live sd evs := by
  induction evs with
  | nil => intro _ _; rfl
  | cons e es ih =>
    intro live sd
    cases he : e.isStream with
    | false => rw [List.filter_cons_of_neg (by simp [he]), wfStreamFrom_ignored he, ih]
    | true =>
      rw [List.filter_cons_of_pos he]
      cases e with
      | poll r | drop f w | intr | aborted => simp only [wfStreamFrom, ih]
      | _ => cases he

theorem filterMap_saction_filter (evs : List Ev) :
    (evs.filter Ev.isStream).filterMap Ev.saction? = evs.filterMap Ev.saction? := by
  rw [List.filterMap_filter]
  congr 1
  funext e
  unfold Ev.isStream
  cases e.saction? <;> rfl

/-- the events a list of model actions shows (up to the first action that is not enabled) -/
def sObsEvents (c : Cfg) : SState → List SAction → List Ev
  | _, [] => []
  | s, a :: as =>
    match sstep? c true s a with
    | none => []
    | some s1 => sStepEvents c s a ++ sObsEvents c s1 as

theorem sobsRun_of_srun (x : MonCtx) (as : List SAction) (s s' : SState)
    (h : srun x.c true s as = some s') : SObsRun x s (sObsEvents x.c s as) s' :=
  (srun_isRun x.c true).run_induction (P := fun s as s' => SObsRun x s (sObsEvents x.c s as) s')
    (fun s => .nil s)
    (fun s a s1 as s' hs _ ih => by unfold sObsEvents; rw [hs]; exact .step a hs ih) h

theorem sobsRun_of_isSome (x : MonCtx) {s : SState} {as : List SAction}
    (h : (srun x.c true s as).isSome = true) : ∃ s', SObsRun x s (sObsEvents x.c s as) s' := by
  obtain ⟨s', hs'⟩ := Option.isSome_iff_exists.mp h
  exact ⟨s', sobsRun_of_srun x _ _ _ hs'⟩

theorem SObsRun.snoc {x : MonCtx} {s s1 s2 : SState} {evs : List Ev} (h : SObsRun x s evs s1)
    {a : SAction} (hs : sstep? x.c true s1 a = some s2) : SObsRun x s (evs ++ sStepEvents x.c s1 a) s2 := by
  induction h with
  | nil s =>
    have := SObsRun.step (x := x) a hs (SObsRun.nil s2)
    simpa using this
  | @step s s' s1 evs b hb _ ih =>
    have := SObsRun.step (x := x) b hb (ih hs)
    rw [List.append_assoc]
    exact this

theorem sreachable_obsRun (x : MonCtx) {t : SState} (hr : SReachable x.c true t) :
    ∃ evs, SObsRun x (sinit x.c) evs t := by
  induction hr with
  | init => exact ⟨[], SObsRun.nil _⟩
  | step a _ hs ih =>
    obtain ⟨evs, h⟩ := ih
    exact ⟨_, h.snoc hs⟩

theorem SObsRun.run_actions {x : MonCtx} {s s' : SState} {evs : List Ev} (h : SObsRun x s evs s') :
    srun x.c true s (evs.filterMap Ev.saction?) = some s' := by
  induction h with
  | nil s => rfl
  | @step s s1 s' evs a hs _ ih =>
    have : (sStepEvents x.c s a ++ evs).filterMap Ev.saction? = a :: evs.filterMap Ev.saction? := by
      cases a <;> rfl
    rw [this, (srun_isRun x.c true).cons_some hs]
    exact ih

theorem sobsRun_reachable {x : MonCtx} {s s' : SState} {evs : List Ev} (h : SObsRun x s evs s')
    (hr : SReachable x.c true s) : SReachable x.c true s' :=
  sreachable_srun hr h.run_actions

/-- the step shows a single event; well-formedness advances over it; non-coop, the monitor moves to
    `s1` and accepts iff a poll does not panic -/
theorem trackStream_of_step {x : MonCtx} {s s1 : SState} {a : SAction}
    (h : sstep? x.c true s a = some s1) :
    ∃ e, sStepEvents x.c s a = [e] ∧
      (∀ es, wfStreamFrom s.live s.streamDropped (e :: es) = wfStreamFrom s1.live s1.streamDropped es) ∧
      (x.coop = false → (trackStream x { ss := s } e).1 = { ss := s1 } ∧
        ((∀ n ∈ (trackStream x { ss := s } e).2, n.ok = true) ↔ (a = .poll → s1.panic = false))) := by
  cases a with
  | poll =>
    obtain ⟨hsd, rfl⟩ := sstep_poll_iff.mp h
    refine ⟨_, sStepEvents_poll _ _, fun es => ?_, fun hcoop => ?_⟩
    · rw [(sipollObs_spec x.c true s).live, (sipollObs_spec x.c true s).streamDropped]
      simp [wfStreamFrom, hsd]
    · rw [trackStream_poll hcoop]
      -- two notes: the text (`sipoll_pollText`) and the panic flag
      simp only [List.mem_cons, List.not_mem_nil, or_false, forall_eq_or_imp, forall_eq, Note.ok,
        beq_iff_eq, forall_const, toString_eq_false_iff, true_and]
      exact and_iff_right (sipoll_pollText x.c true s)
  | drop f =>
    have hs := sdrop_spec (sstep_drop_iff.mp h)
    refine ⟨_, rfl, fun es => ?_, fun _ => ?_⟩
    · rw [hs.live, hs.streamDropped]
      simp [wfStreamFrom, hs.mem]
    · rw [trackStream_drop, sstep_drop_iff.mp h]
      -- the one note compares the wake flag the step shows with itself
      refine ⟨rfl, fun _ ha => (by cases ha), fun _ n hn => ?_⟩
      rw [List.mem_singleton.mp hn]
      exact beq_self_eq_true _
  | dropStream =>
    obtain ⟨hsd, rfl⟩ := sstep_dropStream_iff.mp h
    exact ⟨_, rfl, fun es => by simp [wfStreamFrom, hsd, sdropStream], fun _ => by simp [trackStream_aborted]⟩
  | interrupt =>
    obtain rfl := sstep_interrupt_iff.mp h
    exact ⟨_, rfl, fun es => rfl, fun _ => by simp [trackStream_intr]⟩

/-- an accepted stream event of a well-formed trace is the event of an enabled step: an accepted
    `poll r` has `r` = the model's answer (the texts are injective), an accepted
    `drop f w` has `w` = the model's wake flag -/
theorem step_of_trackStream {x : MonCtx} (hcoop : x.coop = false) {s : SState} {e : Ev} {es : List Ev}
    (he : e.isStream = true) (hwf : wfStreamFrom s.live s.streamDropped (e :: es) = true)
    (hok : ∀ n ∈ (trackStream x { ss := s } e).2, n.ok = true) :
    ∃ a s1, sstep? x.c true s a = some s1 ∧ sStepEvents x.c s a = [e] := by
  cases e with
  | poll r =>
    simp only [wfStreamFrom, Bool.and_eq_true, Bool.not_eq_true'] at hwf
    rw [trackStream_poll hcoop] at hok
    have htext := hok _ (List.mem_cons_self ..)
    rw [Note.ok_cmp] at htext
    refine ⟨.poll, _, sstep_poll_iff.mpr ⟨hwf.1, rfl⟩, ?_⟩
    show [Ev.poll (pollObsOf _ _ _)] = _
    rw [pollObsOf_of_text htext]
  | drop f w =>
    simp only [wfStreamFrom, Bool.and_eq_true, decide_eq_true_eq] at hwf
    rw [trackStream_drop] at hok
    have hw := hok _ (List.mem_cons_self ..)
    rw [Note.ok_cmp] at hw
    refine ⟨.drop f, _, sstep_drop_iff.mpr (sdrop_iff.mpr ⟨hwf.1, rfl⟩), ?_⟩
    show [Ev.drop f _] = _
    rw [wokenText_inj hw]
  | intr => exact ⟨.interrupt, _, rfl, rfl⟩
  | aborted =>
    simp only [wfStreamFrom, Bool.and_eq_true, Bool.not_eq_true'] at hwf
    exact ⟨.dropStream, _, sstep_dropStream_iff.mpr ⟨hwf.1, rfl⟩, rfl⟩
  | _ => cases he

/-- **accepted stream events are model events**: the stream events of a well-formed accepted trace are
    the events `sStepEvents` shows of the steps the monitor replayed; no hypothesis on the
    configuration -/
theorem strack_events_from {x : MonCtx} (hcoop : x.coop = false) {evs : List Ev} :
    ∀ {t : STrackSt}, wfStreamFrom t.ss.live t.ss.streamDropped evs = true →
      (∀ n ∈ (strackRun x t evs).2, n.ok = true) →
      SObsRun x t.ss (evs.filter Ev.isStream) (strackRun x t evs).1.ss := by
  induction evs with
  | nil => intro t _ _; exact SObsRun.nil _
  | cons e es ih =>
    intro t hwf hok
    rw [strackRun_cons] at hok ⊢
    have hok1 : ∀ n ∈ (trackStream x t e).2, n.ok = true := fun n hn => hok n (List.mem_append_left _ hn)
    have hok2 : ∀ n ∈ (strackRun x (trackStream x t e).1 es).2, n.ok = true :=
      fun n hn => hok n (List.mem_append_right _ hn)
    show SObsRun x t.ss ((e :: es).filter Ev.isStream) (strackRun x (trackStream x t e).1 es).1.ss
    cases he : e.isStream with
    | false =>
      rw [List.filter_cons_of_neg (by simp [he]), trackStream_ignored x t he]
      rw [trackStream_ignored x t he] at hok2
      exact ih (wfStreamFrom_ignored he _ _ es ▸ hwf) hok2
    | true =>
      obtain ⟨a, s1, hstep, hev⟩ := step_of_trackStream hcoop he hwf hok1
      obtain ⟨e', he', hwf', ht⟩ := trackStream_of_step hstep
      obtain rfl : e' = e := List.singleton_inj.mp (he'.symm.trans hev)
      rw [(ht hcoop).1] at hok2 ⊢
      rw [List.filter_cons_of_pos he, ← List.singleton_append, ← hev]
      exact SObsRun.step a hstep (ih (t := { ss := s1 }) (hwf' es ▸ hwf) hok2)

theorem strack_sound_from {x : MonCtx} (hcoop : x.coop = false) {evs : List Ev} {t : STrackSt}
    (hwf : wfStreamFrom t.ss.live t.ss.streamDropped evs = true)
    (hok : ∀ n ∈ (strackRun x t evs).2, n.ok = true) :
    srun x.c true t.ss (evs.filterMap Ev.saction?) = some (strackRun x t evs).1.ss :=
  filterMap_saction_filter evs ▸ (strack_events_from hcoop hwf hok).run_actions

/-- no hypothesis on the configuration: `trackStream` replays `sipoll` / `sdrop` / `sdropStream` -/
theorem strack_follows {x : MonCtx} (hcoop : x.coop = false) {s s' : SState} {evs : List Ev}
    (h : SObsRun x s evs s') : (strackRun x { ss := s } evs).1.ss = s' := by
  induction h with
  | nil s => rfl
  | @step s s1 s' evs a hstep rest ih =>
    obtain ⟨e, he, _, ht⟩ := trackStream_of_step hstep
    rw [he, List.singleton_append, strackRun_cons, (ht hcoop).1]
    exact ih

/-- the `panic` comparison of a `poll` event is the only note of `trackStream` that can fail on a
    model run -/
theorem strack_complete_of_noPanic {x : MonCtx} (hcoop : x.coop = false)
    (hnp : ∀ t, SReachable x.c true t → t.streamDropped = false → (sipoll x.c true t).1.panic = false)
    {s s' : SState} {evs : List Ev} (hr : SReachable x.c true s) (h : SObsRun x s evs s') :
    (∀ n ∈ (strackRun x { ss := s } evs).2, n.ok = true) ∧ (strackRun x { ss := s } evs).1.ss = s' := by
  refine ⟨?_, strack_follows hcoop h⟩
  induction h with
  | nil s => intro n hn; cases hn
  | @step s s1 s' evs a hstep rest ih =>
    obtain ⟨e, he, _, ht⟩ := trackStream_of_step hstep
    rw [he, List.singleton_append, strackRun_cons, (ht hcoop).1]
    intro n hn
    rcases List.mem_append.mp hn with hn | hn
    · refine (ht hcoop).2.mpr (fun ha => ?_) n hn
      subst ha
      obtain ⟨hsd, rfl⟩ := sstep_poll_iff.mp hstep
      exact hnp s hr hsd
    · exact ih (.step a hr hstep) n hn

theorem sobsRun_wf {x : MonCtx} {s s' : SState} {evs : List Ev} (h : SObsRun x s evs s') :
    wfStreamFrom s.live s.streamDropped evs = true := by
  induction h with
  | nil s => rfl
  | @step s s1 s' evs a hstep rest ih =>
    obtain ⟨e, he, hwf, _⟩ := trackStream_of_step hstep
    rw [he, List.singleton_append, hwf]
    exact ih

end FG
