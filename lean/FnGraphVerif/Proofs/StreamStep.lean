/-
  The transition functions of the stream models (`Model/StreamPoll.lean`,
  `Model/StreamMicro.lean`) read as equations and as inversions
  `step? … = some s' ↔ guard ∧ s' = post`, so that no proof has to unfold them again; the drain loop
  `sDrain` read through its iterates (`RelStar`, `sDrain_relStar`).
-/
import FnGraphVerif.Model.StreamMicro
import FnGraphVerif.Proofs.IntrMachine
namespace FG

/-- `fn_done_rx.poll_recv` on an empty done channel: register the waker if a sender is alive.  The
    model spells this `if` out three times (`sDrain`, `sRecvOnce`, `mstep? .drainStep`). -/
def sReg (t : SState) : SState := if t.doneSenders then { t with doneRxWaker := true } else t

theorem sDrain_nil (c : Cfg) (k : Nat) {s : SState} (h : s.doneQ = []) : sDrain c (k + 1) s = sReg s := by
  rw [sDrain]
  split
  · rename_i hq; rw [h] at hq; cases hq
  · rfl

theorem sDrain_cons (c : Cfg) (k : Nat) {s : SState} {x : Nat} {rest : List Nat} (h : s.doneQ = x :: rest) :
    sDrain c (k + 1) s = sDrain c k (sRelease c s x rest) := by
  rw [sDrain]
  split
  · rename_i hq; rw [h] at hq; cases hq; rfl
  · rename_i hq; rw [h] at hq; cases hq

theorem sReg_eq (t : SState) : sReg t = { t with doneRxWaker := t.doneSenders || t.doneRxWaker } := by
  unfold sReg
  cases t.doneSenders <;> rfl

/-- registering on an empty done channel: a consumer that still holds its senders ends up registered -/
theorem sReg_registered {t : SState} (h : t.txOpen = true) : (sReg t).doneRxWaker = true := by
  rw [sReg_eq]
  show (t.doneSenders || t.doneRxWaker) = true
  simp [SState.doneSenders, h]

/-- `RelStar c s a`: `a` is `s` (the state at `pollBegin`) after some iterations of the drain loop -/
inductive RelStar (c : Cfg) : SState → SState → Prop
  | refl (s : SState) : RelStar c s s
  | step {s a : SState} {x : Nat} {rest : List Nat} : RelStar c s a → a.doneQ = x :: rest →
      RelStar c s (sRelease c a x rest)

/-- the drain loop: from an iterate `a` it runs on through iterates to one with an empty
    done channel, and registers there.  Whatever every iterate satisfies (`RelStar.core` in Proofs/StreamInv.lean,
    `RelStar.sameOuter`, `RelStar.released`) the drained state satisfies up to `sReg`. -/
theorem sDrain_relStar (c : Cfg) {s : SState} : ∀ (k : Nat) {a : SState}, RelStar c s a → a.doneQ.length < k →
    ∃ b, RelStar c s b ∧ b.doneQ = [] ∧ sDrain c k a = sReg b := by
  intro k
  induction k with
  | zero => intro a _ hk; omega
  | succ k ih =>
    intro a h hk
    cases hq : a.doneQ with
    | nil => exact ⟨a, h, hq, sDrain_nil c k hq⟩
    | cons x rest =>
      rw [sDrain_cons c k hq]
      exact ih (h.step hq) (by rw [hq] at hk; exact Nat.lt_of_succ_lt_succ hk)

/-- frame lemmas for the registering `poll_recv` and for the drain loop: an update `g` that leaves
    what they read (`doneQ`, `doneSenders`) unchanged and commutes with what they write, commutes with them -/
theorem sReg_comm (g : SState → SState) (t : SState) (hs : (g t).doneSenders = t.doneSenders)
    (hw : g { t with doneRxWaker := true } = { g t with doneRxWaker := true }) : sReg (g t) = g (sReg t) := by
  unfold sReg
  rw [hs]
  split
  · exact hw.symm
  · rfl

theorem sDrain_comm (c : Cfg) (g : SState → SState) (hq : ∀ t, (g t).doneQ = t.doneQ)
    (hrel : ∀ t x r, sRelease c (g t) x r = g (sRelease c t x r)) (hreg : ∀ t, sReg (g t) = g (sReg t)) :
    ∀ (k : Nat) (t : SState), sDrain c k (g t) = g (sDrain c k t) := by
  intro k
  induction k with
  | zero => intro t; rfl
  | succ k ih =>
    intro t
    obtain h | ⟨x, rest, h⟩ : t.doneQ = [] ∨ ∃ x rest, t.doneQ = x :: rest := by cases t.doneQ <;> simp
    · rw [sDrain_nil c k ((hq t).trans h), sDrain_nil c k h, hreg]
    · rw [sDrain_cons c k ((hq t).trans h), sDrain_cons c k h, hrel, ih]

theorem sDrain_setIm (c : Cfg) (j : IM) (k : Nat) (t : SState) :
    sDrain c k { t with im := j } = { sDrain c k t with im := j } :=
  sDrain_comm c (fun t => { t with im := j }) (fun _ => rfl) (fun _ _ _ => rfl)
    (fun t => sReg_comm (fun t => { t with im := j }) t rfl rfl) k t

theorem spoll_eq (c : Cfg) (s : SState) :
    spoll c true s = sReadyHalf (sDrain c (s.doneQ.length + 1) { s with wake := false }) := rfl

/-- the same for either closure (`drain = false`: the pinned one, a single `poll_recv`) -/
theorem spoll_eq_ite (c : Cfg) (drain : Bool) (s : SState) :
    spoll c drain s = sReadyHalf (if drain then sDrain c (s.doneQ.length + 1) { s with wake := false }
      else sRecvOnce c { s with wake := false }) := rfl

def syield (d : SState) (f : Nat) (rest : List Nat) : SState :=
  { d with readyQ := rest, yielded := d.yielded ++ [f], live := d.live ++ [f],
           fnsRemaining := d.fnsRemaining - 1, txOpen := d.fnsRemaining - 1 != 0,
           panic := d.panic || d.fnsRemaining == 0 }

theorem sReadyHalf_closed {d : SState} (h : d.txOpen = false) : sReadyHalf d = (d, .none) := by
  simp only [sReadyHalf, h]; rfl

theorem sReadyHalf_nil {d : SState} (h : d.txOpen = true) (hq : d.readyQ = []) :
    sReadyHalf d = ({ d with readyRxWaker := true }, .pending) := by
  simp only [sReadyHalf, h, hq]; rfl

theorem sReadyHalf_cons {d : SState} {f : Nat} {rest : List Nat} (h : d.txOpen = true) (hq : d.readyQ = f :: rest) :
    sReadyHalf d = (syield d f rest, .some f) := by
  simp only [sReadyHalf, h, hq]; rfl

theorem sReadyHalf_cases (d : SState) :
    (d.txOpen = false ∧ sReadyHalf d = (d, .none)) ∨
    (d.txOpen = true ∧ d.readyQ = [] ∧ sReadyHalf d = ({ d with readyRxWaker := true }, .pending)) ∨
    (∃ f rest, d.txOpen = true ∧ d.readyQ = f :: rest ∧ sReadyHalf d = (syield d f rest, .some f)) := by
  rcases Bool.eq_false_or_eq_true d.txOpen with htx | htx
  · obtain hq | ⟨f, rest, hq⟩ : d.readyQ = [] ∨ ∃ f rest, d.readyQ = f :: rest := by
      cases d.readyQ <;> simp
    · exact Or.inr (Or.inl ⟨htx, hq, sReadyHalf_nil htx hq⟩)
    · exact Or.inr (Or.inr ⟨f, rest, htx, hq, sReadyHalf_cons htx hq⟩)
  · exact Or.inl ⟨htx, sReadyHalf_closed htx⟩

/-- frame lemma for `fn_ready_rx.poll_recv`: an update `g` that leaves what it reads (`txOpen`,
    `readyQ`) unchanged and commutes with what it writes, commutes with it (`g` = set `im`, add a wake-up, …) -/
theorem sReadyHalf_comm (g : SState → SState) (d : SState) (htx : (g d).txOpen = d.txOpen)
    (hq : (g d).readyQ = d.readyQ) (hw : g { d with readyRxWaker := true } = { g d with readyRxWaker := true })
    (hy : ∀ f rest, g (syield d f rest) = syield (g d) f rest) :
    sReadyHalf (g d) = (g (sReadyHalf d).1, (sReadyHalf d).2) := by
  rcases sReadyHalf_cases d with ⟨h, e⟩ | ⟨h, hq', e⟩ | ⟨f, rest, h, hq', e⟩
  · rw [e, sReadyHalf_closed (htx.trans h)]
  · rw [e, sReadyHalf_nil (htx.trans h) (hq.trans hq'), hw]
  · rw [e, sReadyHalf_cons (htx.trans h) (hq.trans hq'), hy]

/-- Trap: as a rewrite rule the left side matches EVERY `sReadyHalf t` (structure eta), so give the
    arguments explicitly. -/
theorem sReadyHalf_setIm (d : SState) (i : IM) :
    sReadyHalf { d with im := i } = ({ (sReadyHalf d).1 with im := i }, (sReadyHalf d).2) :=
  sReadyHalf_comm (fun d => { d with im := i }) d rfl rfl rfl (fun _ _ => rfl)

theorem sReadyHalf_wake (d : SState) : (sReadyHalf d).1.wake = d.wake := by
  rcases sReadyHalf_cases d with ⟨_, e⟩ | ⟨_, _, e⟩ | ⟨f, rest, _, _, e⟩ <;> rw [e] <;> rfl

theorem sReadyHalf_im (d : SState) : (sReadyHalf d).1.im = d.im :=
  congrArg (·.1.im) (sReadyHalf_setIm d d.im)

theorem sReadyHalf_facts (d : SState) :
    (sReadyHalf d).1.streamDropped = d.streamDropped ∧
    ((sReadyHalf d).2 = .pending → (sReadyHalf d).1.txOpen = true ∧ (sReadyHalf d).1.readyQ = [] ∧
      (sReadyHalf d).1.doneQ = d.doneQ ∧ (sReadyHalf d).1.doneRxWaker = d.doneRxWaker ∧ d.txOpen = true) ∧
    ((sReadyHalf d).2 = .none ↔ d.txOpen = false) ∧
    (d.txOpen = true → d.readyQ ≠ [] → ∃ f, (sReadyHalf d).2 = .some f) := by
  rcases sReadyHalf_cases d with ⟨h, e⟩ | ⟨h, hq, e⟩ | ⟨f, rest, h, hq, e⟩ <;> rw [e]
  · simp [h]
  · simp [h, hq]
  · simp [h, hq, syield]

theorem sReadyHalf_yield_le (d : SState) : (sReadyHalf d).1.yielded.length - d.yielded.length ≤ 1 := by
  rcases sReadyHalf_cases d with ⟨_, e⟩ | ⟨_, _, e⟩ | ⟨f, rest, _, _, e⟩ <;> rw [e] <;> simp [syield]

def underOf : PollRes → Under
  | .some _ => .item
  | .none => .none
  | .pending => .pending

def itemOf : PollRes → Option Nat
  | .some f => some f
  | _ => none

/-- the fields of the stream state that only yields / drops / the stream drop change -/
structure SKeep (s d : SState) : Prop where
  yielded : d.yielded = s.yielded
  live : d.live = s.live
  droppedRefs : d.droppedRefs = s.droppedRefs
  streamDropped : d.streamDropped = s.streamDropped

/-- the fields the drain loop (`sRelease`, `sReg`) leaves alone -/
structure SameOuter (s d : SState) : Prop where
  txOpen : d.txOpen = s.txOpen
  yielded : d.yielded = s.yielded
  live : d.live = s.live
  droppedRefs : d.droppedRefs = s.droppedRefs
  streamDropped : d.streamDropped = s.streamDropped
  fnsRemaining : d.fnsRemaining = s.fnsRemaining
  lastPending : d.lastPending = s.lastPending
  im : d.im = s.im

theorem SameOuter.refl (s : SState) : SameOuter s s := ⟨rfl, rfl, rfl, rfl, rfl, rfl, rfl, rfl⟩

theorem SameOuter.trans {a b d : SState} (h1 : SameOuter a b) (h2 : SameOuter b d) : SameOuter a d :=
  ⟨h2.txOpen.trans h1.txOpen, h2.yielded.trans h1.yielded, h2.live.trans h1.live,
   h2.droppedRefs.trans h1.droppedRefs, h2.streamDropped.trans h1.streamDropped,
   h2.fnsRemaining.trans h1.fnsRemaining, h2.lastPending.trans h1.lastPending, h2.im.trans h1.im⟩

theorem sReg_sameOuter (t : SState) : SameOuter t (sReg t) := by
  rw [sReg_eq]
  exact ⟨rfl, rfl, rfl, rfl, rfl, rfl, rfl, rfl⟩

theorem RelStar.sameOuter {c : Cfg} {s a : SState} (h : RelStar c s a) : SameOuter s a := by
  induction h with
  | refl => exact SameOuter.refl _
  | step _ _ ih => exact ih.trans ⟨rfl, rfl, rfl, rfl, rfl, rfl, rfl, rfl⟩

/-- a prefix `l` of the done channel has moved to `released` -/
theorem RelStar.released {c : Cfg} {s a : SState} (h : RelStar c s a) :
    ∃ l, a.released = s.released ++ l ∧ s.doneQ = l ++ a.doneQ := by
  induction h with
  | refl => exact ⟨[], (List.append_nil _).symm, rfl⟩
  | step _ hq ih =>
    rename_i a x rest _
    obtain ⟨l, h1, h2⟩ := ih
    exact ⟨l ++ [x], by show _ ++ [x] = _; rw [h1, List.append_assoc],
      by show _ = (l ++ [x]) ++ rest; rw [h2, hq, List.append_assoc]; rfl⟩

theorem RelStar.len {c : Cfg} {s a : SState} (h : RelStar c s a) : a.doneQ.length ≤ s.doneQ.length := by
  obtain ⟨l, _, h2⟩ := h.released
  rw [h2, List.length_append]
  exact Nat.le_add_left _ _

theorem sDrain_sameOuter (c : Cfg) (s : SState) : SameOuter s (sDrain c (s.doneQ.length + 1) s) := by
  obtain ⟨b, hb, _, e⟩ := sDrain_relStar c _ (.refl s) (Nat.lt_succ_self _)
  exact e ▸ hb.sameOuter.trans (sReg_sameOuter b)

theorem sRecvOnce_sameOuter (c : Cfg) (s : SState) : SameOuter s (sRecvOnce c s) := by
  unfold sRecvOnce
  split
  · exact ⟨rfl, rfl, rfl, rfl, rfl, rfl, rfl, rfl⟩
  · exact sReg_sameOuter s

def PollRes.ys : PollRes → List Nat
  | .some f => [f]
  | _ => []

theorem spoll_keep (c : Cfg) (drain : Bool) (s : SState) :
    (spoll c drain s).1.yielded = s.yielded ++ (spoll c drain s).2.ys ∧
    (spoll c drain s).1.live = s.live ++ (spoll c drain s).2.ys ∧
    (spoll c drain s).1.droppedRefs = s.droppedRefs ∧
    (spoll c drain s).1.streamDropped = s.streamDropped := by
  have hpre : SameOuter s (if drain then sDrain c (s.doneQ.length + 1) { s with wake := false }
      else sRecvOnce c { s with wake := false }) := by
    cases drain
    · exact SameOuter.trans (b := { s with wake := false }) ⟨rfl, rfl, rfl, rfl, rfl, rfl, rfl, rfl⟩ (sRecvOnce_sameOuter c _)
    · exact SameOuter.trans (b := { s with wake := false }) ⟨rfl, rfl, rfl, rfl, rfl, rfl, rfl, rfl⟩ (sDrain_sameOuter c _)
  rw [spoll_eq_ite]
  obtain ⟨_, h1, h2, h3, h4, _, _, _⟩ := hpre
  rcases sReadyHalf_cases (if drain then sDrain c (s.doneQ.length + 1) { s with wake := false }
      else sRecvOnce c { s with wake := false }) with ⟨_, e⟩ | ⟨_, _, e⟩ | ⟨f, rest, _, _, e⟩ <;> rw [e]
  · simp [PollRes.ys, h1, h2, h3, h4]
  · simp [PollRes.ys, h1, h2, h3, h4]
  · simp [PollRes.ys, syield, h1, h2, h3, h4]

theorem underOf_pending {r : PollRes} (h : underOf r = .pending) : r = .pending := by
  cases r <;> first | rfl | cases h

theorem sipoll_inner (c : Cfg) (drain : Bool) (s : SState) (h : pollsInner c.strat s.im = true) :
    sipoll c drain s =
      ({ (spoll c drain s).1 with
          im := (pollNext c.strat s.im (underOf (spoll c drain s).2)).1,
          lastPending := decide ((pollNext c.strat s.im (underOf (spoll c drain s).2)).2 = .pending) },
       (pollNext c.strat s.im (underOf (spoll c drain s).2)).2, itemOf (spoll c drain s).2) := by
  unfold sipoll
  rw [if_pos h]
  rcases spoll c drain s with ⟨t, r⟩
  cases r <;> rfl

theorem sipoll_outer (c : Cfg) (drain : Bool) (s : SState) (h : pollsInner c.strat s.im = false) :
    sipoll c drain s =
      ({ s with im := (pollNext c.strat s.im .pending).1, wake := false,
                lastPending := decide ((pollNext c.strat s.im .pending).2 = .pending) },
       (pollNext c.strat s.im .pending).2, none) := by
  unfold sipoll
  rw [if_neg (by simp [h])]

/-- the underlying answer fed to the machine by one `sipoll` -/
def sipollUnder (c : Cfg) (drain : Bool) (s : SState) : Under :=
  if pollsInner c.strat s.im then underOf (spoll c drain s).2 else .pending

theorem sipollUnder_none {c : Cfg} {drain : Bool} {s : SState} (h : sipollUnder c drain s = .none) :
    (spoll c drain s).2 = .none := by
  unfold sipollUnder at h
  split at h
  · revert h
    cases (spoll c drain s).2 <;> simp [underOf]
  · cases h

/-- one `sipoll` is one `pollNext` of the wrapper on `sipollUnder`; it yields iff the answer has an item -/
theorem sipoll_spec (c : Cfg) (drain : Bool) (s : SState) :
    (sipoll c drain s).1.im = (pollNext c.strat s.im (sipollUnder c drain s)).1 ∧
    (sipoll c drain s).1.yielded.length = s.yielded.length +
      (if (pollNext c.strat s.im (sipollUnder c drain s)).2.isItem then 1 else 0) := by
  unfold sipollUnder
  rw [pollNext_isItem]
  cases hp : pollsInner c.strat s.im
  · rw [sipoll_outer c drain s hp]
    exact ⟨rfl, rfl⟩
  · rw [sipoll_inner c drain s hp]
    refine ⟨rfl, ?_⟩
    show (spoll c drain s).1.yielded.length = _
    rw [(spoll_keep c drain s).1, List.length_append]
    cases (spoll c drain s).2 <;> rfl

theorem sipoll_out (c : Cfg) (drain : Bool) (s : SState) :
    (sipoll c drain s).2.1 = (pollNext c.strat s.im (sipollUnder c drain s)).2 := by
  unfold sipollUnder
  cases hp : pollsInner c.strat s.im
  · rw [sipoll_outer c drain s hp]; rfl
  · rw [sipoll_inner c drain s hp]
    cases (spoll c drain s).2 <;> rfl

/-- the state after `FnRef::drop` of `f`, with the new done queue / wake / done-waker flags -/
def sdropped (s : SState) (f : Nat) (dq : List Nat) (w r : Bool) : SState :=
  { s with live := s.live.erase f, droppedRefs := s.droppedRefs ++ [f], doneQ := dq, wake := w,
           doneRxWaker := r }

theorem sdrop_iff {c : Cfg} {s s' : SState} {f : Nat} :
    sdrop c s f = some s' ↔ f ∈ s.live ∧
      s' = if s.streamDropped || decide (c.cap ≤ s.doneQ.length) then sdropped s f s.doneQ s.wake s.doneRxWaker
           else sdropped s f (s.doneQ ++ [f]) (s.wake || s.doneRxWaker) false := by
  unfold sdrop
  by_cases hf : f ∈ s.live
  · simp only [hf, not_true_eq_false, if_false, true_and]
    split <;> exact ⟨fun h => (Option.some.inj h).symm, fun h => h ▸ rfl⟩
  · simp [hf]

theorem sdrop_eq (c : Cfg) (s : SState) (f : Nat) :
    sdrop c s f = if f ∉ s.live then none else
      if s.streamDropped || decide (c.cap ≤ s.doneQ.length) then some (sdropped s f s.doneQ s.wake s.doneRxWaker)
      else some (sdropped s f (s.doneQ ++ [f]) (s.wake || s.doneRxWaker) false) := rfl

/-- frame lemma for `FnRef::drop`: an update `g` that leaves what it reads (`live`, `streamDropped`,
    `doneQ`) unchanged and commutes with its two outcomes, commutes with it -/
theorem sdrop_comm (c : Cfg) (g : SState → SState) (t : SState) (f : Nat) (hl : (g t).live = t.live)
    (hsd : (g t).streamDropped = t.streamDropped) (hq : (g t).doneQ = t.doneQ)
    (h1 : g (sdropped t f t.doneQ t.wake t.doneRxWaker) =
      sdropped (g t) f (g t).doneQ (g t).wake (g t).doneRxWaker)
    (h2 : g (sdropped t f (t.doneQ ++ [f]) (t.wake || t.doneRxWaker) false) =
      sdropped (g t) f ((g t).doneQ ++ [f]) ((g t).wake || (g t).doneRxWaker) false) :
    sdrop c (g t) f = (sdrop c t f).map g := by
  rw [sdrop_eq, sdrop_eq, hl, hsd, hq]
  split
  · rfl
  · split
    · rw [Option.map_some, h1, hq]
    · rw [Option.map_some, h2, hq]

/-- what a drop leaves alone, and the two things it can do to the done channel -/
structure SDrop (s s' : SState) (f : Nat) : Prop where
  mem : f ∈ s.live
  live : s'.live = s.live.erase f
  droppedRefs : s'.droppedRefs = s.droppedRefs ++ [f]
  streamDropped : s'.streamDropped = s.streamDropped
  txOpen : s'.txOpen = s.txOpen
  lastPending : s'.lastPending = s.lastPending
  readyQ : s'.readyQ = s.readyQ
  yielded : s'.yielded = s.yielded
  im : s'.im = s.im
  sent : (s'.doneQ = s.doneQ ∧ s'.wake = s.wake ∧ s'.doneRxWaker = s.doneRxWaker) ∨
    (s'.doneQ = s.doneQ ++ [f] ∧ s'.wake = (s.wake || s.doneRxWaker))

theorem sdrop_spec {c : Cfg} {s s' : SState} {f : Nat} (hd : sdrop c s f = some s') : SDrop s s' f := by
  obtain ⟨hf, rfl⟩ := sdrop_iff.mp hd
  split
  · exact ⟨hf, rfl, rfl, rfl, rfl, rfl, rfl, rfl, rfl, Or.inl ⟨rfl, rfl, rfl⟩⟩
  · exact ⟨hf, rfl, rfl, rfl, rfl, rfl, rfl, rfl, rfl, Or.inr ⟨rfl, rfl⟩⟩

/-- the wake-up of a drop, as the harness logs it: a registered waker, a live stream, room in the
    done channel -/
theorem sdrop_wake {c : Cfg} {s s' : SState} {f : Nat} (hd : sdrop c s f = some s') :
    s'.wake = (s.wake || (s.doneRxWaker && !s.streamDropped && decide (s.doneQ.length < c.cap))) := by
  obtain ⟨_, rfl⟩ := sdrop_iff.mp hd
  split
  · rename_i hcond
    show s.wake = _
    rcases Bool.or_eq_true_iff.mp hcond with h1 | h1
    · simp [h1]
    · have : ¬ s.doneQ.length < c.cap := by have := of_decide_eq_true h1; omega
      simp [this]
  · rename_i hcond
    show (s.wake || s.doneRxWaker) = _
    simp only [Bool.or_eq_true, decide_eq_true_eq, not_or, Bool.not_eq_true, Nat.not_le] at hcond
    simp [hcond.1, hcond.2]

theorem ite_some_iff {α : Type} {p : Prop} [Decidable p] {a b : α} :
    (if p then some a else none) = some b ↔ p ∧ b = a := by
  split <;> simp [*, eq_comm]

section
variable {c : Cfg} {drain : Bool} {s s' : SState}

theorem sstep_poll_iff : sstep? c drain s .poll = some s' ↔ s.streamDropped = false ∧ s' = (sipoll c drain s).1 := by
  simp only [sstep?]
  cases s.streamDropped <;> simp [eq_comm]

theorem sstep_drop_iff {f : Nat} : sstep? c drain s (.drop f) = some s' ↔ sdrop c s f = some s' := Iff.rfl

theorem sstep_dropStream_iff :
    sstep? c drain s .dropStream = some s' ↔ s.streamDropped = false ∧ s' = sdropStream s := by
  simp only [sstep?]
  cases s.streamDropped <;> simp [eq_comm]

theorem sstep_interrupt_iff :
    sstep? c drain s .interrupt = some s' ↔ s' = { s with im := { s.im with sent := true } } := by
  simp only [sstep?, Option.some.injEq, eq_comm]

end

/-- what the stream steps do to the wrapper's machine and to the number of yields (the shape
    `Drives` of `Proofs/IntrDrive.lean` asks for) -/
theorem sstep_other {c : Cfg} {drain : Bool} {s s' : SState} {a : SAction}
    (h : sstep? c drain s a = some s') (h1 : a ≠ .interrupt) (h2 : a ≠ .poll) :
    s'.im = s.im ∧ s'.yielded = s.yielded := by
  cases a with
  | interrupt => exact absurd rfl h1
  | poll => exact absurd rfl h2
  | drop f => exact ⟨(sdrop_spec h).im, (sdrop_spec h).yielded⟩
  | dropStream => obtain ⟨_, rfl⟩ := sstep_dropStream_iff.mp h; exact ⟨rfl, rfl⟩

theorem sstep_interrupt {c : Cfg} {drain : Bool} {s s' : SState}
    (h : sstep? c drain s .interrupt = some s') :
    s'.im = { s.im with sent := true } ∧ s'.yielded = s.yielded := by
  obtain rfl := sstep_interrupt_iff.mp h
  exact ⟨rfl, rfl⟩

theorem sstep_poll {c : Cfg} {drain : Bool} {s s' : SState}
    (h : sstep? c drain s .poll = some s') :
    s'.im = (pollNext c.strat s.im (sipollUnder c drain s)).1 ∧
    s'.yielded.length = s.yielded.length +
      (if (pollNext c.strat s.im (sipollUnder c drain s)).2.isItem then 1 else 0) := by
  obtain ⟨_, rfl⟩ := sstep_poll_iff.mp h
  exact sipoll_spec c drain s

section
variable {c : Cfg} {m m' : MState}

theorem mstep_pollBegin_iff : mstep? c m .pollBegin = some m' ↔
    m.pc = .idle ∧ m.s.streamDropped = false ∧ m' = { m with s := { m.s with wake := false }, pc := .draining } := by
  simp only [mstep?, ite_some_iff, and_assoc]

/-- one `fn_done_rx.poll_recv`: release the head of the done channel, or see it empty and leave the loop -/
theorem mstep_drainStep_iff : mstep? c m .drainStep = some m' ↔ m.pc = .draining ∧
    ((∃ x rest, m.s.doneQ = x :: rest ∧ m' = { m with s := sRelease c m.s x rest }) ∨
     (m.s.doneQ = [] ∧ m' = { m with s := sReg m.s, pc := .readyPoll })) := by
  simp only [mstep?]
  cases hq : m.s.doneQ with
  | nil =>
    simp only [ite_some_iff, reduceCtorEq, false_and, exists_false, false_or, true_and, sReg]
    rw [hq]
  | cons x rest =>
    simp only [ite_some_iff, reduceCtorEq, false_and, or_false, List.cons.injEq, and_assoc, exists_and_left,
      exists_eq_left']

theorem mstep_readyStep_iff : mstep? c m .readyStep = some m' ↔ m.pc = .readyPoll ∧
    m' = { s := { (sReadyHalf m.s).1 with lastPending := decide ((sReadyHalf m.s).2 = .pending) },
           pc := .idle, result := some (sReadyHalf m.s).2 } := by
  simp only [mstep?, ite_some_iff]

theorem mstep_drop_iff {f : Nat} :
    mstep? c m (.drop f) = some m' ↔ ∃ s', sdrop c m.s f = some s' ∧ m' = { m with s := s' } := by
  simp only [mstep?]
  cases sdrop c m.s f with
  | none => simp
  | some s1 =>
    simp only [Option.some.injEq, exists_eq_left']
    exact eq_comm

theorem mstep_dropStream_iff : mstep? c m .dropStream = some m' ↔
    m.pc = .idle ∧ m.s.streamDropped = false ∧ m' = { m with s := sdropStream m.s } := by
  simp only [mstep?, ite_some_iff, and_assoc]

end

/-- the answer has an item exactly when the inner stream was polled and yielded one -/
theorem sipoll_item (c : Cfg) (drain : Bool) (s : SState) :
    (sipoll c drain s).2.1.isItem = (sipoll c drain s).2.2.isSome := by
  cases hp : pollsInner c.strat s.im
  · rw [sipoll_outer c drain s hp, pollNext_isItem, hp]; rfl
  · rw [sipoll_inner c drain s hp, pollNext_isItem, hp, Bool.true_and]
    cases (spoll c drain s).2 <;> rfl

/-- what a poll of the wrapper does to the fields only yields / drops change -/
theorem sipoll_keep (c : Cfg) (drain : Bool) (s : SState) :
    (sipoll c drain s).1.yielded = s.yielded ++ (sipoll c drain s).2.2.toList ∧
    (sipoll c drain s).1.live = s.live ++ (sipoll c drain s).2.2.toList ∧
    (sipoll c drain s).1.droppedRefs = s.droppedRefs ∧
    (sipoll c drain s).1.streamDropped = s.streamDropped ∧
    (sipoll c drain s).1.lastPending = decide ((sipoll c drain s).2.1 = .pending) := by
  cases hp : pollsInner c.strat s.im
  · rw [sipoll_outer c drain s hp]
    exact ⟨(List.append_nil _).symm, (List.append_nil _).symm, rfl, rfl, rfl⟩
  · obtain ⟨k1, k2, k3, k4⟩ := spoll_keep c drain s
    have hy : (spoll c drain s).2.ys = (itemOf (spoll c drain s).2).toList := by
      cases (spoll c drain s).2 <;> rfl
    rw [sipoll_inner c drain s hp]
    exact ⟨hy ▸ k1, hy ▸ k2, k3, k4, rfl⟩

end FG
