/-
  Proofs/ProtoStep.lean — what each action of `step?` does: the post-state under a name, one equation
  `step? c s a = if guard then … else none` and one `step? c s a = some s' ↔ guard ∧ s' = post` per
  action.  Proofs about `step?` start from these and never unfold it.  `finish f ok` has ONE post-state `finW` for success, collected and
  short-circuiting error.
  `schedPoll_sem` is the poll of the ready stream together with what its answer says about the
  queue and the interrupt machine.
-/
import FnGraphVerif.Model.Proto
import FnGraphVerif.Proofs.IntrMachine
namespace FG
variable {c : Cfg} {s s' : PState} {f : Nat} {ok : Bool}

def qrApply (c : Cfg) (s : PState) (x : Nat) (rest : List Nat) : PState :=
  { s with
    doneQ := rest, qRemaining := s.qRemaining - 1,
    readyTxOpen := (s.readyTxOpen && (s.qRemaining - 1 != 0)),
    counts := (relFold ((s.readyTxOpen && (s.qRemaining - 1 != 0)) && s.readyRxOpen) c.cap
      (s.counts, s.readyQ, s.panic || s.qRemaining == 0) (children c.D x)).1,
    readyQ := (relFold ((s.readyTxOpen && (s.qRemaining - 1 != 0)) && s.readyRxOpen) c.cap
      (s.counts, s.readyQ, s.panic || s.qRemaining == 0) (children c.D x)).2.1,
    panic := (relFold ((s.readyTxOpen && (s.qRemaining - 1 != 0)) && s.readyRxOpen) c.cap
      (s.counts, s.readyQ, s.panic || s.qRemaining == 0) (children c.D x)).2.2,
    released := s.released ++ [x] }

/-- what `schedPoll` does with the answer `(m, out)` of the interruptible stream -/
def spApply (c : Cfg) (s : PState) (m : IM) : Out → Option PState
  | .pending => some { s with im := m }
  | .endd => some { s with im := m, streamEnded := true, readyRxOpen := false }
  | .intNone => some { s with im := m, doneTxOpen := false }
  | .noInt =>
    match s.readyQ with
    | [] => none
    | f :: rest => some (handOut c { s with im := m } f rest)
  | .intSome =>
    match s.readyQ with
    | [] => none
    | f :: rest =>
      if c.incl then some { handOut c { s with im := m } f rest with closeAfter := some f }
      else some { s with im := m, readyQ := rest, dropped := some f, doneTxOpen := false }

/-- a failing completion is refused where the closure cannot fail (`fold_async*`, `for_each*`) -/
def finAllowed (c : Cfg) (ok : Bool) : Bool := ok || decide (c.errMode ≠ .none)

/-- `finish f ok` short-circuits: a failure under `try_fold*` -/
def finShort (c : Cfg) (ok : Bool) : Bool := !ok && decide (c.errMode = .shortCircuit)

/-- the state after `finish f ok`, every mode at once: the mode only shows in the values written -/
def finW (c : Cfg) (s : PState) (f : Nat) (ok : Bool) : PState :=
  { s with
    inflight := s.inflight.erase f
    endedOk := if ok then s.endedOk ++ [f] else s.endedOk
    failed := if ok then s.failed else s.failed ++ [f]
    errors := if !ok && decide (c.errMode = .collect) then s.errors ++ [f] else s.errors
    doneQ := if ok && s.doneTxOpen && !decide (c.cap ≤ s.doneQ.length) then s.doneQ ++ [f] else s.doneQ
    sRemaining := if ok || decide (c.errMode = .collect) then s.sRemaining - 1 else s.sRemaining
    doneTxOpen := ok && (s.doneTxOpen && (s.sRemaining - 1 != 0) && s.closeAfter != some f)
    panic := s.panic || ((ok || decide (c.errMode = .collect)) && s.sRemaining == 0) ||
      (ok && s.doneTxOpen && decide (c.cap ≤ s.doneQ.length)) ||
      (!ok && decide (c.errMode = .collect) && decide (c.cap ≤ s.errors.length))
    shortErr := if finShort c ok then some f else s.shortErr
    readyRxOpen := s.readyRxOpen && !finShort c ok
    sDone := s.sDone || finShort c ok }

theorem finW_shortErr : (finW c s f ok).shortErr = if finShort c ok then some f else s.shortErr := rfl

theorem finW_sDone : (finW c s f ok).sDone = (s.sDone || finShort c ok) := rfl

theorem finW_ok : finW c s f true =
    { s with
      inflight := s.inflight.erase f, endedOk := s.endedOk ++ [f],
      doneQ := (if s.doneTxOpen && !decide (c.cap ≤ s.doneQ.length) then s.doneQ ++ [f] else s.doneQ),
      sRemaining := s.sRemaining - 1,
      doneTxOpen := (s.doneTxOpen && (s.sRemaining - 1 != 0) && s.closeAfter != some f),
      panic := (s.panic || s.sRemaining == 0 || (s.doneTxOpen && decide (c.cap ≤ s.doneQ.length))) } := by
  simp [finW, finShort]

theorem finW_collect (hm : c.errMode = .collect) : finW c s f false =
    { s with
      inflight := s.inflight.erase f, failed := s.failed ++ [f], errors := s.errors ++ [f],
      doneTxOpen := false, sRemaining := s.sRemaining - 1,
      panic := (s.panic || s.sRemaining == 0 || decide (c.cap ≤ s.errors.length)) } := by
  simp [finW, finShort, hm]

theorem finW_short (hm : c.errMode = .shortCircuit) : finW c s f false =
    { s with
      inflight := s.inflight.erase f, failed := s.failed ++ [f], shortErr := some f,
      doneTxOpen := false, readyRxOpen := false, sDone := true } := by
  simp [finW, finShort, hm]

/-- a short-circuiting failure is the only completion that writes `shortErr` and `sDone` -/
theorem finW_short_cases :
    (finW c s f ok).shortErr = some f ∧ c.errMode = .shortCircuit ∧ (finW c s f ok).sDone = true ∨
    (finW c s f ok).shortErr = s.shortErr ∧ (finW c s f ok).sDone = s.sDone := by
  rw [finW_shortErr, finW_sDone]
  cases h : finShort c ok
  · exact .inr ⟨rfl, Bool.or_false _⟩
  · have hm : ok = false ∧ c.errMode = .shortCircuit := by simpa [finShort] using h
    exact .inl ⟨rfl, hm.2, Bool.or_true _⟩

theorem underLimit_seq_iff (hs : c.sequential = true) : underLimit c s = true ↔ s.inflight = [] := by
  rw [underLimit, if_pos hs, List.isEmpty_iff]

theorem underLimit_par_iff (hs : c.sequential = false) {l : Nat} (hl : c.limit = some (l + 1)) :
    underLimit c s = true ↔ s.inflight.length < l + 1 := by
  rw [underLimit, if_neg (by simp [hs]), hl]
  exact decide_eq_true_iff

theorem underLimit_unlimited (hseq : c.sequential = false) (hlim : c.limit = none ∨ c.limit = some 0) :
    underLimit c s = true := by
  unfold underLimit
  rw [hseq]
  rcases hlim with h | h <;> simp [h]

theorem underLimit_nil (h : s.inflight = []) : underLimit c s = true := by
  cases hs : c.sequential with
  | true => exact (underLimit_seq_iff hs).mpr h
  | false =>
    rcases hl : c.limit with _ | _ | l
    · exact underLimit_unlimited hs (.inl hl)
    · exact underLimit_unlimited hs (.inr hl)
    · exact (underLimit_par_iff hs hl).mpr (by rw [h]; exact Nat.succ_pos l)

theorem underLimit_of_length_le {t : PState} (hl : t.inflight.length ≤ s.inflight.length)
    (h : underLimit c s = true) : underLimit c t = true := by
  cases hs : c.sequential with
  | true =>
    rw [underLimit_seq_iff hs] at h ⊢
    rw [h] at hl
    exact List.eq_nil_of_length_eq_zero (Nat.le_zero.mp hl)
  | false =>
    cases hlim : c.limit with
    | none => exact underLimit_unlimited hs (.inl hlim)
    | some l =>
      cases l with
      | zero => exact underLimit_unlimited hs (.inr hlim)
      | succ l =>
        rw [underLimit_par_iff hs hlim] at h ⊢
        omega

/-- `limit := some 0` is the unlimited protocol ("0 and None mean unbounded", `for_each_concurrent`):
    `limit` enters `step?` through `underLimit` only -/
theorem step?_limit_zero {c : Cfg} (hl : c.limit = none) (s : PState) (a : Action) :
    step? { c with limit := some 0 } s a = step? c s a := by
  cases c; cases hl; cases a <;> rfl

/-- `poll_next` of the ready stream is not called: the scheduler is done, the stream has ended, or
    the limit of `for_each_concurrent` is reached -/
def spBlocked (c : Cfg) (s : PState) : Bool := s.sDone || s.streamEnded || !underLimit c s

theorem step_sp (c : Cfg) (s : PState) : step? c s .schedPoll =
    if spBlocked c s then none
    else spApply c s (pollNext c.strat s.im (readyUnder s)).1 (pollNext c.strat s.im (readyUnder s)).2 := by
  unfold spBlocked
  split
  · rename_i hg; simp only [step?, hg, if_true]
  · rename_i hg
    simp only [step?, hg]
    -- answer by answer both sides compute to the same state
    cases (pollNext c.strat s.im (readyUnder s)).2 <;> rfl

theorem step_qr (c : Cfg) (s : PState) : step? c s .queuerRecv =
    if s.qDone || s.result.isSome then none
    else match s.doneQ with
      | [] => none
      | x :: rest => some (qrApply c s x rest) := by
  by_cases hg : (s.qDone || s.result.isSome) = true
  · simp only [step?, hg, if_true]
  · cases hq : s.doneQ with
    | nil => simp only [step?, hg, hq]
    | cons x rest => simp only [step?, hg, hq]; rfl

theorem step_qe (c : Cfg) (s : PState) : step? c s .queuerEnd =
    if s.qDone || s.doneTxOpen || !s.doneQ.isEmpty then none
    else some { s with qDone := true, readyTxOpen := false } := rfl

theorem step_se (c : Cfg) (s : PState) : step? c s .schedEnd =
    if s.streamEnded && s.inflight.isEmpty && !s.sDone then
      some { s with sDone := true, doneTxOpen := s.doneTxOpen && !c.sequential }
    else none := rfl

theorem step_rt (c : Cfg) (s : PState) : step? c s .ret =
    if s.sDone && s.qDone && s.result.isNone then some { s with result := some (mkRet c s) } else none := rfl

theorem step_iv (c : Cfg) (s : PState) (f : Nat) : step? c s (.invoke f) =
    if f ∈ s.inflight ∧ f ∉ s.invoked then some { s with invoked := s.invoked ++ [f] } else none := rfl

theorem step_int (c : Cfg) (s : PState) :
    step? c s .interrupt = some { s with im := { s.im with sent := true } } := rfl

/- The guards of `queuerRecv`, `queuerEnd`, `invoke`, `schedEnd`, `ret` are read off the equation of
   their action: `(if g then none else some t) = some s'` is `¬ g ∧ t = s'`
   (`Option.ite_none_left_eq_some`, or `_right_` for a positive guard). -/
theorem step_queuerRecv_iff : step? c s .queuerRecv = some s' ↔
    s.qDone = false ∧ s.result = none ∧ ∃ x rest, s.doneQ = x :: rest ∧ s' = qrApply c s x rest := by
  rw [step_qr, Option.ite_none_left_eq_some]
  cases s.doneQ with
  | nil => simp only [reduceCtorEq, and_false, false_and, exists_false]
  | cons x rest =>
    simp only [Option.some.injEq, @eq_comm _ s', Bool.or_eq_true, not_or, Bool.not_eq_true,
      Option.isSome_eq_false_iff, Option.isNone_iff_eq_none, List.cons.injEq, and_assoc,
      exists_and_left, exists_eq_left']

theorem step_queuerEnd_iff : step? c s .queuerEnd = some s' ↔
    s.qDone = false ∧ s.doneTxOpen = false ∧ s.doneQ = [] ∧
      s' = { s with qDone := true, readyTxOpen := false } := by
  rw [step_qe, Option.ite_none_left_eq_some]
  simp only [Option.some.injEq, @eq_comm _ s', Bool.or_eq_true, Bool.not_eq_true',
    List.isEmpty_eq_false_iff, not_or, Bool.not_eq_true, ne_eq, Decidable.not_not, and_assoc]

theorem step_schedPoll_iff : step? c s .schedPoll = some s' ↔
    s.sDone = false ∧ s.streamEnded = false ∧ underLimit c s = true ∧
      spApply c s (pollNext c.strat s.im (readyUnder s)).1 (pollNext c.strat s.im (readyUnder s)).2
        = some s' := by
  rw [step_sp, spBlocked]
  cases s.sDone <;> cases s.streamEnded <;> cases underLimit c s <;> simp

theorem step_invoke_iff : step? c s (.invoke f) = some s' ↔
    f ∈ s.inflight ∧ f ∉ s.invoked ∧ s' = { s with invoked := s.invoked ++ [f] } := by
  rw [step_iv, Option.ite_none_right_eq_some]
  simp only [Option.some.injEq, @eq_comm _ s', and_assoc]

theorem step_finish_iff : step? c s (.finish f ok) = some s' ↔
    (f ∈ s.inflight ∧ f ∈ s.invoked ∧ finAllowed c ok = true) ∧ s' = finW c s f ok := by
  by_cases hg : f ∈ s.inflight ∧ f ∈ s.invoked
  · cases ok <;> cases he : c.errMode <;>
      simp [step?, hg, he, decr, finAllowed, finW, finShort, @eq_comm _ s']
  · have hg' : ¬ (f ∈ s.inflight ∧ f ∈ s.invoked ∧ finAllowed c ok = true) := fun h => hg ⟨h.1, h.2.1⟩
    simp [step?, hg, hg']

theorem step_finish_of (h : f ∈ s.inflight ∧ f ∈ s.invoked ∧ finAllowed c ok = true) :
    step? c s (.finish f ok) = some (finW c s f ok) := step_finish_iff.mpr ⟨h, rfl⟩

theorem step_finish_eq (c : Cfg) (s : PState) (f : Nat) (ok : Bool) : step? c s (.finish f ok) =
    if f ∈ s.inflight ∧ f ∈ s.invoked ∧ finAllowed c ok = true then some (finW c s f ok) else none := by
  split
  · exact step_finish_of ‹_›
  · cases h : step? c s (.finish f ok) with
    | none => rfl
    | some s' => exact absurd (step_finish_iff.mp h).1 ‹_›

theorem step_finish_congr {t : PState} (h : step? c s (.finish f ok) = some s') (hi : f ∈ t.inflight)
    (hv : f ∈ t.invoked) : step? c t (.finish f ok) = some (finW c t f ok) :=
  step_finish_of ⟨hi, hv, (step_finish_iff.mp h).1.2.2⟩

theorem step_interrupt_iff : step? c s .interrupt = some s' ↔
    s' = { s with im := { s.im with sent := true } } := by
  rw [step_int, Option.some.injEq, eq_comm]

theorem step_schedEnd_iff : step? c s .schedEnd = some s' ↔
    s.streamEnded = true ∧ s.inflight = [] ∧ s.sDone = false ∧
      s' = { s with sDone := true, doneTxOpen := s.doneTxOpen && !c.sequential } := by
  rw [step_se, Option.ite_none_right_eq_some]
  simp only [Option.some.injEq, @eq_comm _ s', Bool.and_eq_true, List.isEmpty_iff, Bool.not_eq_true',
    and_assoc]

theorem step_ret_iff : step? c s .ret = some s' ↔
    s.sDone = true ∧ s.qDone = true ∧ s.result = none ∧ s' = { s with result := some (mkRet c s) } := by
  rw [step_rt, Option.ite_none_right_eq_some]
  simp only [Option.some.injEq, @eq_comm _ s', Bool.and_eq_true, Option.isNone_iff_eq_none, and_assoc]

theorem mkRet_short {f : Nat} (h : s.shortErr = some f) : mkRet c s = .err f := by
  unfold mkRet; rw [h]

theorem mkRet_noShort (h : s.shortErr = none) :
    mkRet c s = .outcome (s.sRemaining == 0) s.handedOut
      ((List.range c.n).filter (fun v => decide (v ∉ s.handedOut))) s.errors := by
  unfold mkRet; rw [h]

theorem mkRet_outcome {fin : Bool} {p np e : List Nat}
    (h : mkRet c s = .outcome fin p np e) : s.shortErr = none := by
  cases hse : s.shortErr with
  | none => rfl
  | some g => rw [mkRet_short hse] at h; cases h

theorem spApply_eq_some {m : IM} {out : Out} (h : spApply c s m out = some s') :
    (out = .pending ∧ s' = { s with im := m }) ∨
    (out = .endd ∧ s' = { s with im := m, streamEnded := true, readyRxOpen := false }) ∨
    (out = .intNone ∧ s' = { s with im := m, doneTxOpen := false }) ∨
    (out = .noInt ∧ ∃ f rest, s.readyQ = f :: rest ∧ s' = handOut c { s with im := m } f rest) ∨
    (out = .intSome ∧ ∃ f rest, s.readyQ = f :: rest ∧
      ((c.incl = true ∧ s' = { handOut c { s with im := m } f rest with closeAfter := some f }) ∨
       (c.incl = false ∧ s' = { s with im := m, readyQ := rest, dropped := some f, doneTxOpen := false }))) := by
  cases out with
  | pending => exact .inl ⟨rfl, (Option.some.inj h).symm⟩
  | endd => exact .inr (.inl ⟨rfl, (Option.some.inj h).symm⟩)
  | intNone => exact .inr (.inr (.inl ⟨rfl, (Option.some.inj h).symm⟩))
  | noInt =>
    simp only [spApply] at h
    split at h
    · cases h
    · rename_i f rest hq
      exact .inr (.inr (.inr (.inl ⟨rfl, f, rest, hq, (Option.some.inj h).symm⟩)))
  | intSome =>
    simp only [spApply] at h
    split at h
    · cases h
    · rename_i f rest hq
      refine .inr (.inr (.inr (.inr ⟨rfl, f, rest, hq, ?_⟩)))
      split at h
      · rename_i hi
        exact .inl ⟨hi, (Option.some.inj h).symm⟩
      · rename_i hi
        exact .inr ⟨Bool.not_eq_true _ ▸ hi, (Option.some.inj h).symm⟩

theorem spApply_eq_none {m : IM} {out : Out} (h : spApply c s m out = none) :
    (out = .noInt ∨ out = .intSome) ∧ s.readyQ = [] := by
  cases out with
  | pending => cases h
  | endd => cases h
  | intNone => cases h
  | noInt =>
    simp only [spApply] at h
    split at h
    · rename_i hq; exact ⟨.inl rfl, hq⟩
    · cases h
  | intSome =>
    simp only [spApply] at h
    split at h
    · rename_i hq; exact ⟨.inr rfl, hq⟩
    · split at h <;> cases h

theorem step_schedPoll_eq (hd : s.sDone = false) (he : s.streamEnded = false) (hu : underLimit c s = true) :
    step? c s .schedPoll =
      spApply c s (pollNext c.strat s.im (readyUnder s)).1 (pollNext c.strat s.im (readyUnder s)).2 :=
  Option.ext fun _ => by rw [step_schedPoll_iff]; simp only [hd, he, hu, true_and]

theorem step_schedPoll_none_of_sDone (h : s.sDone = true) : step? c s .schedPoll = none :=
  Option.eq_none_iff_forall_ne_some.mpr fun _ hs => by rw [(step_schedPoll_iff.mp hs).1] at h; cases h

/-- What a step does to the five lists `inflight`, `invoked`, `handedOut`, `endedOk`, `failed`:
    nothing, or `invoke f` extends `invoked`, or `finish f ok` moves `f` from `inflight` to `endedOk`
    or `failed`, or `schedPoll` hands out the head of the ready queue. -/
theorem step_lists {a : Action} (h : step? c s a = some s') :
    ((∀ f, a ≠ .invoke f) ∧ s'.inflight = s.inflight ∧ s'.invoked = s.invoked ∧
      s'.handedOut = s.handedOut ∧ s'.endedOk = s.endedOk ∧ s'.failed = s.failed) ∨
    (∃ f, a = .invoke f ∧ f ∈ s.inflight ∧ f ∉ s.invoked ∧ s'.inflight = s.inflight ∧
      s'.invoked = s.invoked ++ [f] ∧ s'.handedOut = s.handedOut ∧ s'.endedOk = s.endedOk ∧
      s'.failed = s.failed) ∨
    (∃ f ok, a = .finish f ok ∧ f ∈ s.inflight ∧ f ∈ s.invoked ∧ s'.inflight = s.inflight.erase f ∧
      s'.invoked = s.invoked ∧ s'.handedOut = s.handedOut ∧
      s'.endedOk = (if ok then s.endedOk ++ [f] else s.endedOk) ∧
      s'.failed = (if ok then s.failed else s.failed ++ [f])) ∨
    (∃ f rest, a = .schedPoll ∧ s.readyQ = f :: rest ∧ s'.inflight = s.inflight ++ [f] ∧
      s'.invoked = s.invoked ∧ s'.handedOut = s.handedOut ++ [f] ∧ s'.endedOk = s.endedOk ∧
      s'.failed = s.failed) := by
  cases a with
  | queuerRecv =>
    obtain ⟨_, _, x, rest, _, rfl⟩ := step_queuerRecv_iff.mp h
    exact .inl ⟨nofun, rfl, rfl, rfl, rfl, rfl⟩
  | queuerEnd =>
    obtain ⟨_, _, _, rfl⟩ := step_queuerEnd_iff.mp h
    exact .inl ⟨nofun, rfl, rfl, rfl, rfl, rfl⟩
  | schedPoll =>
    obtain ⟨_, _, _, hp⟩ := step_schedPoll_iff.mp h
    rcases spApply_eq_some hp with ⟨_, rfl⟩ | ⟨_, rfl⟩ | ⟨_, rfl⟩ | ⟨_, f, rest, hq, rfl⟩ |
      ⟨_, f, rest, hq, ⟨_, rfl⟩ | ⟨_, rfl⟩⟩
    · exact .inl ⟨nofun, rfl, rfl, rfl, rfl, rfl⟩
    · exact .inl ⟨nofun, rfl, rfl, rfl, rfl, rfl⟩
    · exact .inl ⟨nofun, rfl, rfl, rfl, rfl, rfl⟩
    · exact .inr (.inr (.inr ⟨f, rest, rfl, hq, rfl, rfl, rfl, rfl, rfl⟩))
    · exact .inr (.inr (.inr ⟨f, rest, rfl, hq, rfl, rfl, rfl, rfl, rfl⟩))
    · exact .inl ⟨nofun, rfl, rfl, rfl, rfl, rfl⟩
  | invoke f =>
    obtain ⟨h1, h2, rfl⟩ := step_invoke_iff.mp h
    exact .inr (.inl ⟨f, rfl, h1, h2, rfl, rfl, rfl, rfl, rfl⟩)
  | finish f ok =>
    obtain ⟨⟨h1, h2, _⟩, rfl⟩ := step_finish_iff.mp h
    exact .inr (.inr (.inl ⟨f, ok, rfl, h1, h2, rfl, rfl, rfl, rfl, rfl⟩))
  | interrupt =>
    cases step_interrupt_iff.mp h
    exact .inl ⟨nofun, rfl, rfl, rfl, rfl, rfl⟩
  | schedEnd =>
    obtain ⟨_, _, _, rfl⟩ := step_schedEnd_iff.mp h
    exact .inl ⟨nofun, rfl, rfl, rfl, rfl, rfl⟩
  | ret =>
    obtain ⟨_, _, _, rfl⟩ := step_ret_iff.mp h
    exact .inl ⟨nofun, rfl, rfl, rfl, rfl, rfl⟩

/-- `spApply_eq_some` for proofs that do not look at the interrupt machine: three shapes -/
theorem schedPoll_shapes (h : step? c s .schedPoll = some s') :
    s.sDone = false ∧ underLimit c s = true ∧
    ((∃ m se rx dtx, s' = { s with im := m, streamEnded := se, readyRxOpen := rx, doneTxOpen := dtx }) ∨
     (∃ m ca f rest, s.readyQ = f :: rest ∧
        s' = { handOut c { s with im := m } f rest with closeAfter := ca }) ∨
     (∃ m f rest, s.readyQ = f :: rest ∧
        s' = { s with im := m, readyQ := rest, dropped := some f, doneTxOpen := false })) := by
  obtain ⟨hsd, _, hu, h4⟩ := step_schedPoll_iff.mp h
  have hcase := spApply_eq_some h4
  refine ⟨hsd, hu, ?_⟩
  generalize (pollNext c.strat s.im (readyUnder s)).1 = m at hcase
  rcases hcase with ⟨_, rfl⟩ | ⟨_, rfl⟩ | ⟨_, rfl⟩ | ⟨_, f, rest, hq, rfl⟩ |
    ⟨_, f, rest, hq, ⟨_, rfl⟩ | ⟨_, rfl⟩⟩
  · exact .inl ⟨m, s.streamEnded, s.readyRxOpen, s.doneTxOpen, rfl⟩
  · exact .inl ⟨m, true, false, s.doneTxOpen, rfl⟩
  · exact .inl ⟨m, s.streamEnded, s.readyRxOpen, false, rfl⟩
  · exact .inr (.inl ⟨m, s.closeAfter, f, rest, hq, rfl⟩)
  · exact .inr (.inl ⟨m, some f, f, rest, hq, rfl⟩)
  · exact .inr (.inr ⟨m, f, rest, hq, rfl⟩)

theorem readyUnder_none (h : readyUnder s = .none) : s.readyQ = [] ∧ s.readyTxOpen = false := by
  unfold readyUnder at h
  cases hq : s.readyQ with
  | nil => cases ht : s.readyTxOpen <;> simp [hq, ht] at h ⊢
  | cons a l => simp [hq] at h

theorem readyUnder_pending (h : readyUnder s = .pending) : s.readyQ = [] ∧ s.readyTxOpen = true := by
  unfold readyUnder at h
  cases hq : s.readyQ with
  | nil => cases ht : s.readyTxOpen <;> simp [hq, ht] at h ⊢
  | cons a l => simp [hq] at h

theorem readyUnder_item (h : readyUnder s = .item) : s.readyQ ≠ [] := by
  unfold readyUnder at h
  cases hq : s.readyQ with
  | nil => cases ht : s.readyTxOpen <;> simp [hq, ht] at h
  | cons a l => simp

/-- what the new machine `m` of a poll has in common with the old one, whatever the answer -/
structure IM.Polled (m₀ m : IM) : Prop where
  ok : m₀.Ok → m.Ok
  recv : m₀.recv = true → m.recv = true

/-- The four things a poll can do.  `Pending` keeps `ian`, settles the machine unless nothing changes,
    and is only answered on an empty queue with the sender open; the end of the stream is answered
    after an interrupt or on an empty queue with the sender closed; an interrupt is seen once (`ian`
    goes on) and closes the done sender now, or with the completion of the item it still hands out, or
    swallows the item; otherwise the head of the queue is handed out. -/
theorem schedPoll_sem (h : step? c s .schedPoll = some s') :
    s.sDone = false ∧ s.streamEnded = false ∧ underLimit c s = true ∧ ∃ m : IM, s.im.Polled m ∧
    ((s' = { s with im := m } ∧ m.ian = s.im.ian ∧
        (m ≠ s.im → m.unsettled c.strat < s.im.unsettled c.strat) ∧ s.readyQ = [] ∧ s.readyTxOpen = true) ∨
     (s' = { s with im := m, streamEnded := true, readyRxOpen := false } ∧ m.ian = s.im.ian ∧
        (s.im.ian = true ∨ s.readyQ = [] ∧ s.readyTxOpen = false)) ∨
     (s.im.ian = false ∧ m.ian = true ∧
        (s' = { s with im := m, doneTxOpen := false } ∨
         ∃ f rest, s.readyQ = f :: rest ∧
          (s' = { handOut c { s with im := m } f rest with closeAfter := some f } ∨
           s' = { s with im := m, readyQ := rest, dropped := some f, doneTxOpen := false }))) ∨
     (m.ian = s.im.ian ∧ ∃ f rest, s.readyQ = f :: rest ∧ s' = handOut c { s with im := m } f rest)) := by
  obtain ⟨hsd, hse, hu, h4⟩ := step_schedPoll_iff.mp h
  have hcase := spApply_eq_some h4
  have ha := pollNext_answer c.strat s.im (readyUnder s)
  have hpend := @unsettled_pending c.strat s.im (readyUnder s)
  have hpl : s.im.Polled (pollNext c.strat s.im (readyUnder s)).1 := ⟨(pollNext_mono _ _ _).2, (pollNext_mono _ _ _).1⟩
  generalize pollNext c.strat s.im (readyUnder s) = r at *
  obtain ⟨m, out⟩ := r
  refine ⟨hsd, hse, hu, m, hpl, ?_⟩
  rcases hcase with ⟨ho, e⟩ | ⟨ho, e⟩ | ⟨ho, e⟩ | ⟨ho, f, rest, hq, e⟩ | ⟨ho, f, rest, hq, ⟨_, e⟩ | ⟨_, e⟩⟩ <;>
    simp only at ho <;> rw [ho] at ha
  · exact .inl ⟨e, ha.2, hpend ho, readyUnder_pending ha.1⟩
  · exact .inr (.inl ⟨e, ha.1, ha.2.imp id readyUnder_none⟩)
  · exact .inr (.inr (.inl ⟨ha.1, ha.2, .inl e⟩))
  · exact .inr (.inr (.inr ⟨ha.1, f, rest, hq, e⟩))
  · exact .inr (.inr (.inl ⟨ha.1, ha.2.1, .inr ⟨f, rest, hq, .inl e⟩⟩))
  · exact .inr (.inr (.inl ⟨ha.1, ha.2.1, .inr ⟨f, rest, hq, .inr e⟩⟩))

/-- a poll that is not guarded off is never refused: an item is only answered when the queue has one -/
theorem schedPoll_enabled (hsd : s.sDone = false) (hse : s.streamEnded = false) (hul : underLimit c s = true) :
    ∃ t, step? c s .schedPoll = some t := by
  rw [step_schedPoll_eq hsd hse hul]
  cases h : spApply c s (pollNext c.strat s.im (readyUnder s)).1 (pollNext c.strat s.im (readyUnder s)).2 with
  | some t => exact ⟨t, rfl⟩
  | none =>
    obtain ⟨hout, hq⟩ := spApply_eq_none h
    have ha := pollNext_answer c.strat s.im (readyUnder s)
    refine absurd hq (readyUnder_item ?_)
    rcases hout with ho | ho <;> simp only [ho] at ha
    · exact ha.2
    · exact ha.2.2

/-- a poll that changes nothing was answered `Pending` -/
theorem poll_self (h : step? c s .schedPoll = some s) : s.readyQ = [] ∧ s.readyTxOpen = true := by
  have hcons : ∀ {f : Nat} {rest : List Nat}, s.readyQ = f :: rest → s.readyQ ≠ rest :=
    fun hq e => List.cons_ne_self _ _ (hq.symm.trans e)
  obtain ⟨_, hse, _, m, _, hcase⟩ := schedPoll_sem h
  rcases hcase with ⟨_, _, _, hq⟩ | ⟨e, _⟩ | ⟨hian0, hian, e | ⟨f, rest, hq, e | e⟩⟩ | ⟨_, f, rest, hq, e⟩
  · exact hq
  · rw [congrArg PState.streamEnded e] at hse; cases hse
  · rw [← congrArg (·.im.ian) e, hian0] at hian; cases hian
  · exact absurd (congrArg PState.readyQ e) (hcons hq)
  · exact absurd (congrArg PState.readyQ e) (hcons hq)
  · exact absurd (congrArg PState.readyQ e) (hcons hq)

variable {s1 : PState}

/-- What a step appends to the four observed lists: `step_lists` per action, with the appended
    lists as literals, so that they can be set against the events `stepEvents` gives for the step. -/
structure ListsStep (s s1 : PState) (ho inv eok fl : List Nat) : Prop where
  ho : s1.handedOut = s.handedOut ++ ho
  inv : s1.invoked = s.invoked ++ inv
  eok : s1.endedOk = s.endedOk ++ eok
  fl : s1.failed = s.failed ++ fl

theorem ListsStep.same {s s1 : PState} (h1 : s1.handedOut = s.handedOut) (h2 : s1.invoked = s.invoked)
    (h3 : s1.endedOk = s.endedOk) (h4 : s1.failed = s.failed) : ListsStep s s1 [] [] [] [] :=
  ⟨by simpa using h1, by simpa using h2, by simpa using h3, by simpa using h4⟩

theorem ListsStep.queuerRecv (hs : step? c s .queuerRecv = some s1) : ListsStep s s1 [] [] [] [] := by
  obtain ⟨_, _, _, _, _, e⟩ := step_queuerRecv_iff.mp hs
  rw [e]; exact .same rfl rfl rfl rfl

theorem ListsStep.queuerEnd (hs : step? c s .queuerEnd = some s1) : ListsStep s s1 [] [] [] [] := by
  obtain ⟨_, _, _, e⟩ := step_queuerEnd_iff.mp hs
  rw [e]; exact .same rfl rfl rfl rfl

theorem ListsStep.schedEnd (hs : step? c s .schedEnd = some s1) : ListsStep s s1 [] [] [] [] := by
  obtain ⟨_, _, _, e⟩ := step_schedEnd_iff.mp hs
  rw [e]; exact .same rfl rfl rfl rfl

theorem ListsStep.interrupt (hs : step? c s .interrupt = some s1) : ListsStep s s1 [] [] [] [] := by
  rw [step_interrupt_iff.mp hs]; exact .same rfl rfl rfl rfl

theorem ListsStep.ret (hs : step? c s .ret = some s1) : ListsStep s s1 [] [] [] [] := by
  obtain ⟨_, _, _, e⟩ := step_ret_iff.mp hs
  rw [e]; exact .same rfl rfl rfl rfl

theorem ListsStep.schedPoll (hs : step? c s .schedPoll = some s1) :
    ListsStep s s1 [] [] [] [] ∨ ∃ f rest, s.readyQ = f :: rest ∧ ListsStep s s1 [f] [] [] [] := by
  obtain ⟨_, _, h3⟩ := schedPoll_shapes hs
  rcases h3 with ⟨im, se, rx, dtx, e⟩ | ⟨im, ca, f, rest, hq, e⟩ | ⟨im, f, rest, hq, e⟩
  · exact .inl (by rw [e]; exact .same rfl rfl rfl rfl)
  · exact .inr ⟨f, rest, hq, by rw [e]; exact ⟨rfl, by simp [handOut], by simp [handOut], by simp [handOut]⟩⟩
  · exact .inl (by rw [e]; exact .same rfl rfl rfl rfl)

theorem ListsStep.invoke {f : Nat} (hs : step? c s (.invoke f) = some s1) :
    ListsStep s s1 [] [f] [] [] := by
  obtain ⟨_, _, e⟩ := step_invoke_iff.mp hs
  rw [e]; exact ⟨by simp, rfl, by simp, by simp⟩

theorem ListsStep.finish {f : Nat} {ok : Bool} (hs : step? c s (.finish f ok) = some s1) :
    ListsStep s s1 [] [] (if ok then [f] else []) (if ok then [] else [f]) := by
  obtain ⟨_, rfl⟩ := step_finish_iff.mp hs
  cases ok
  · exact ⟨(List.append_nil _).symm, (List.append_nil _).symm, (List.append_nil _).symm, rfl⟩
  · exact ⟨(List.append_nil _).symm, (List.append_nil _).symm, rfl, (List.append_nil _).symm⟩

theorem ListsStep.exists {a : Action} (hs : step? c s a = some s1) :
    ∃ ho inv eok fl, ListsStep s s1 ho inv eok fl := by
  cases a with
  | queuerRecv => exact ⟨_, _, _, _, .queuerRecv hs⟩
  | queuerEnd => exact ⟨_, _, _, _, .queuerEnd hs⟩
  | schedEnd => exact ⟨_, _, _, _, .schedEnd hs⟩
  | interrupt => exact ⟨_, _, _, _, .interrupt hs⟩
  | ret => exact ⟨_, _, _, _, .ret hs⟩
  | invoke f => exact ⟨_, _, _, _, .invoke hs⟩
  | finish f ok => exact ⟨_, _, _, _, .finish hs⟩
  | schedPoll =>
    rcases ListsStep.schedPoll hs with h | ⟨f, _, _, h⟩
    · exact ⟨_, _, _, _, h⟩
    · exact ⟨_, _, _, _, h⟩

theorem step_handedOut_prefix {a : Action} (h : step? c s a = some s') : s.handedOut <+: s'.handedOut := by
  obtain ⟨ho, _, _, _, hl⟩ := ListsStep.exists h
  rw [hl.ho]
  exact List.prefix_append _ _

theorem step_invoked_prefix {a : Action} (h : step? c s a = some s') : s.invoked <+: s'.invoked := by
  obtain ⟨_, inv, _, _, hl⟩ := ListsStep.exists h
  rw [hl.inv]
  exact List.prefix_append _ _

end FG
