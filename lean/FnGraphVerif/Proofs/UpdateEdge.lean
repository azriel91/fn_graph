/-
  Proofs/UpdateEdge.lean — case analysis of `updateEdge` and preservation of `GoodG`
  by its two successful branches (overwrite in place / append); the batch form `applyEdges`;
  the graph of a builder state after `applyOp`.
-/
import FnGraphVerif.Proofs.EdgePairs
namespace FG

/-- the four outcomes of `update_edge` -/
theorem updateEdge_cases (g : Dag) (a c : Nat) (k : Kind) :
    ((g.n ≤ a ∨ g.n ≤ c) ∧ updateEdge g a c k = (g, .oob)) ∨
    (a < g.n ∧ c < g.n ∧ ∃ i, findEdge g a c = some i ∧
      updateEdge g a c k = ({ g with edges := g.edges.set i ⟨a, c, k⟩ }, .ok i)) ∨
    (a < g.n ∧ c < g.n ∧ findEdge g a c = none ∧ hasPath g c a = true ∧
      updateEdge g a c k = (g, .wouldCycle)) ∨
    (a < g.n ∧ c < g.n ∧ findEdge g a c = none ∧ hasPath g c a = false ∧
      updateEdge g a c k = (addE g ⟨a, c, k⟩, .ok g.edges.length)) := by
  unfold updateEdge
  by_cases hb : g.n ≤ a ∨ g.n ≤ c
  · left; exact ⟨hb, by rw [if_pos hb]⟩
  · right
    rw [if_neg hb]
    have ha : a < g.n := by omega
    have hc : c < g.n := by omega
    cases hf : findEdge g a c with
    | some i => left; exact ⟨ha, hc, i, rfl, rfl⟩
    | none =>
      right
      cases hp : hasPath g c a with
      | true => left; exact ⟨ha, hc, rfl, rfl, by simp⟩
      | false => right; exact ⟨ha, hc, rfl, rfl, by simp [addE]⟩

theorem updateEdge_fresh {g : Dag} {a c : Nat} (k : Kind) (ha : a < g.n) (hc : c < g.n)
    (hne : ¬ IsEdge g a c) (hnp : hasPath g c a = false) :
    updateEdge g a c k = (addE g ⟨a, c, k⟩, .ok g.edges.length) := by
  rcases updateEdge_cases g a c k with ⟨_, _⟩ | ⟨_, _, i, hf, _⟩ | ⟨_, _, _, hp, _⟩ | ⟨_, _, _, _, h⟩
  · omega
  · exact absurd (findEdge_isEdge hf) hne
  · rw [hnp] at hp; cases hp
  · exact h

theorem goodG_set {g : Dag} (hg : GoodG g) {i a c : Nat} (k : Kind)
    (hi : ∃ e, g.edges[i]? = some e ∧ e.src = a ∧ e.tgt = c) :
    GoodG { g with edges := g.edges.set i ⟨a, c, k⟩ } := by
  refine ⟨?_, ?_, ?_⟩
  · intro e he
    rcases List.mem_or_eq_of_mem_set he with h | h
    · exact hg.wf e h
    · obtain ⟨e0, he0, rfl, rfl⟩ := hi
      subst h; exact hg.wf e0 (List.mem_of_getElem? he0)
  · rw [simple_iff_pairs_nodup, pairs_set_kind hi]
    exact (simple_iff_pairs_nodup g).mp hg.simple
  · exact hg.acyclic.anti fun u v h => (isEdge_set_kind hi).mp h

theorem goodG_addE {g : Dag} (hg : GoodG g) {a c : Nat} (k : Kind) (ha : a < g.n) (hc : c < g.n)
    (hne : ¬ IsEdge g a c) (hnr : ¬ Reach g c a) : GoodG (addE g ⟨a, c, k⟩) := by
  refine ⟨?_, ?_, acyclic_addE hg.acyclic hnr⟩
  · intro e he
    simp only [addE, List.mem_append, List.mem_singleton] at he
    rcases he with h | h
    · exact hg.wf e h
    · subst h; exact ⟨ha, hc⟩
  · exact simple_addE (e := ⟨a, c, k⟩) hg.simple hne

theorem updateEdge_preserves {P : Dag → Prop} {g : Dag} {a c : Nat} {k : Kind} (h0 : P g)
    (hset : a < g.n → c < g.n → ∀ i, findEdge g a c = some i → P { g with edges := g.edges.set i ⟨a, c, k⟩ })
    (hadd : a < g.n → c < g.n → findEdge g a c = none → hasPath g c a = false → P (addE g ⟨a, c, k⟩)) :
    P (updateEdge g a c k).1 := by
  rcases updateEdge_cases g a c k with ⟨_, h⟩ | ⟨ha, hc, i, hf, h⟩ | ⟨_, _, _, _, h⟩ | ⟨ha, hc, hf, hp, h⟩ <;>
    rw [h]
  exacts [h0, hset ha hc i hf, h0, hadd ha hc hf hp]

theorem mem_updateEdge {g : Dag} {a c : Nat} {k : Kind} {e : Edge} (he : e ∈ (updateEdge g a c k).1.edges) :
    e ∈ g.edges ∨ e = ⟨a, c, k⟩ := by
  revert he
  refine updateEdge_preserves (P := fun g' => e ∈ g'.edges → _) Or.inl (fun _ _ i _ he => ?_) (fun _ _ _ _ he => ?_)
  · exact List.mem_or_eq_of_mem_set he
  · simpa [addE] using he

theorem updateEdge_n (g : Dag) (a c : Nat) (k : Kind) : (updateEdge g a c k).1.n = g.n :=
  updateEdge_preserves (P := fun g' => g'.n = g.n) rfl (fun _ _ _ _ => rfl) (fun _ _ _ _ => rfl)

theorem updateEdge_kinds {g : Dag} {a c : Nat} {k : Kind} (hk : k ≠ .data)
    (h : ∀ e ∈ g.edges, e.kind ≠ .data) : ∀ e ∈ (updateEdge g a c k).1.edges, e.kind ≠ .data := by
  intro e he
  rcases mem_updateEdge he with h' | rfl
  exacts [h e h', hk]

/-- the batch is a fold of single calls that may stop early -/
theorem applyEdges_preserves {P : Dag → Prop} {k : Kind} (hP : ∀ g a c, P g → P (updateEdge g a c k).1) :
    ∀ (ps : List (Nat × Nat)) (g : Dag) (acc : List Nat), P g → P (applyEdges k g ps acc).1
  | [], _, _, h => h
  | (a, c) :: ps, g, acc, h => by
    have h1 := hP g a c h
    show P (match updateEdge g a c k with
      | (g', .ok i) => applyEdges k g' ps (acc ++ [i])
      | (g', r) => (g', r)).1
    revert h1
    rcases updateEdge g a c k with ⟨g', _ | _ | _ | _⟩ <;> intro h1
    exacts [applyEdges_preserves hP ps g' _ h1, h1, h1, h1]

theorem applyEdges_n (g : Dag) (k : Kind) (ps : List (Nat × Nat)) (acc : List Nat) :
    (applyEdges k g ps acc).1.n = g.n :=
  applyEdges_preserves (P := fun g' => g'.n = g.n) (fun g' a c h => (updateEdge_n g' a c k).trans h) ps g acc rfl

theorem applyEdges_kinds {g : Dag} {k : Kind} (hk : k ≠ .data) (ps : List (Nat × Nat)) (acc : List Nat)
    (h : ∀ e ∈ g.edges, e.kind ≠ .data) : ∀ e ∈ (applyEdges k g ps acc).1.edges, e.kind ≠ .data :=
  applyEdges_preserves (P := fun g' => ∀ e ∈ g'.edges, e.kind ≠ .data)
    (fun _ _ _ h => updateEdge_kinds hk h) ps g acc h

theorem goodG_addFn {b : BState} (d : FnDecl) (h : GoodG b.graph) :
    GoodG (BState.graph { b with fns := b.fns ++ [d] }) := by
  refine ⟨?_, ?_, ?_⟩
  · intro e he
    have := h.wf e he
    simp only [BState.graph, List.length_append, List.length_singleton] at this ⊢
    omega
  · exact h.simple
  · exact h.acyclic.anti (g := b.graph) fun u v h => h

theorem graph_with_edges (b : BState) (g' : Dag) (hn : g'.n = b.graph.n) :
    BState.graph { b with edges := g'.edges } = g' := by
  cases g'; simp only [BState.graph] at hn ⊢; subst hn; rfl

theorem applyOp_edge_graph (b : BState) (k : Kind) (a c : Nat) :
    (applyOp b (.edge k a c)).1.graph = (updateEdge b.graph a c k).1 :=
  graph_with_edges b _ (updateEdge_n _ _ _ _)

theorem applyOp_edges_graph (b : BState) (k : Kind) (ps : List (Nat × Nat)) :
    (applyOp b (.edges k ps)).1.graph = (applyEdges k b.graph ps []).1 :=
  graph_with_edges b _ (applyEdges_n _ _ _ _)

end FG
