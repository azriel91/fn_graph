/-
  Proofs/SimC.lean — `SimC` is `Sim` made coarser for closed states (stream interrupted and done channel closed), where
  the queuer's private data can no longer influence anything observable; it is a strong bisimulation
  for the core actions.  Then `settle` modulo `SimC`: the settled state is the same after any internal
  run and for `SimC`-equal starts (both by confluence), which is the coupling of
  `Theorems/MonitorComplete.lean`; `JoinC` is that relation with the core runs as witnesses.
-/
import FnGraphVerif.Proofs.CoreDiamond
namespace FG
variable {c : Cfg} {s s' t : PState}

-- "closed", the `C` of `SimC`, `JoinC`, `normC`: the stream has interrupted and the done channel is shut
def closedB (s : PState) : Bool := s.im.ian && !s.doneTxOpen

/-- forget `invoked` and the queuer's private data -/
def coreN (s : PState) : PState :=
  { s with invoked := [], counts := [], readyQ := [], readyTxOpen := false, released := [], qRemaining := 0 }

def normC (s : PState) : PState := if closedB s then coreN s else norm s

def SimC (s t : PState) : Prop := normC s = normC t

theorem SimC.refl (s : PState) : SimC s s := rfl
theorem SimC.symm (h : SimC s t) : SimC t s := Eq.symm h
theorem SimC.trans {u : PState} (h1 : SimC s t) (h2 : SimC t u) : SimC s u := Eq.trans h1 h2

/-- `normC` keeps whatever neither `coreN` nor `norm` touches -/
theorem normC_congr {α : Type} (g : PState → α) (hc : ∀ u, g (coreN u) = g u) (hn : ∀ u, g (norm u) = g u)
    (s : PState) : g (normC s) = g s := by
  unfold normC
  split
  · exact hc s
  · exact hn s

theorem SimC.congr {α : Type} (g : PState → α) (hc : ∀ u, g (coreN u) = g u) (hn : ∀ u, g (norm u) = g u)
    (h : SimC s t) : g s = g t := by
  have := congrArg g (show normC s = normC t from h)
  rwa [normC_congr g hc hn, normC_congr g hc hn] at this

theorem SimC.closed_eq (h : SimC s t) : closedB s = closedB t := h.congr closedB (fun _ => rfl) (fun _ => rfl)

theorem Sim.toC (h : Sim s t) : SimC s t := by
  -- `closedB` and `coreN` do not look at what `norm` forgets
  have hcl : closedB s = closedB t := (congrArg closedB (show norm s = norm t from h) :)
  unfold SimC normC
  rw [← hcl]
  split
  · exact (congrArg coreN (show norm s = norm t from h) :)
  · exact h

theorem simC_open (h : SimC s t) (hs : closedB s = false) : Sim s t := by
  have ht : closedB t = false := by rw [← h.closed_eq]; exact hs
  unfold SimC normC at h
  rw [hs, ht] at h
  exact h

theorem simC_closed (h : SimC s t) (hs : closedB s = true) : coreN s = coreN t := by
  have ht : closedB t = true := by rw [← h.closed_eq]; exact hs
  unfold SimC normC at h
  rw [hs, ht] at h
  exact h

theorem simC_of_core (hs : closedB s = true) (h : coreN s = coreN t) : SimC s t := by
  have ht : closedB t = true := by
    have : closedB (coreN s) = closedB (coreN t) := by rw [h]
    rw [← hs]; exact this.symm
  unfold SimC normC
  rw [hs, ht]
  exact h

theorem SimC.handedOut (h : SimC s t) : s.handedOut = t.handedOut :=
  h.congr PState.handedOut (fun _ => rfl) (fun _ => rfl)
theorem SimC.inflight (h : SimC s t) : s.inflight = t.inflight :=
  h.congr PState.inflight (fun _ => rfl) (fun _ => rfl)
theorem SimC.result (h : SimC s t) : s.result = t.result :=
  h.congr PState.result (fun _ => rfl) (fun _ => rfl)
theorem SimC.panic (h : SimC s t) : s.panic = t.panic :=
  h.congr PState.panic (fun _ => rfl) (fun _ => rfl)

theorem closedB_iff : closedB s = true ↔ s.im.ian = true ∧ s.doneTxOpen = false := by
  unfold closedB
  cases s.im.ian <;> cases s.doneTxOpen <;> simp

theorem finW_doneTx_closed {f : Nat} {ok : Bool} (hdt : s.doneTxOpen = false) :
    (finW c s f ok).doneTxOpen = false ∧ (finW c s f ok).doneQ = s.doneQ := by
  constructor
  · show (ok && (s.doneTxOpen && _ && _)) = false
    rw [hdt, Bool.false_and, Bool.false_and, Bool.and_false]
  · show (if ok && s.doneTxOpen && _ then s.doneQ ++ [f] else s.doneQ) = s.doneQ
    rw [hdt, Bool.and_false, Bool.false_and]
    rfl

theorem closed_step {a : Action} (h : closedB s = true) (hs : step? c s a = some s') : closedB s' = true := by
  obtain ⟨h1, h2⟩ := closedB_iff.mp h
  apply closedB_iff.mpr
  cases a with
  | queuerRecv => obtain ⟨_, _, x, rest, _, rfl⟩ := step_queuerRecv_iff.mp hs; exact ⟨h1, h2⟩
  | queuerEnd => obtain ⟨_, _, _, rfl⟩ := step_queuerEnd_iff.mp hs; exact ⟨h1, h2⟩
  | schedPoll =>
    have hcase := spApply_eq_some (step_schedPoll_iff.mp hs).2.2.2
    rw [pollNext_ian h1] at hcase
    rcases hcase with ⟨ho, _⟩ | ⟨_, rfl⟩ | ⟨ho, _⟩ | ⟨ho, _⟩ | ⟨ho, _⟩
    · cases ho
    · exact ⟨h1, h2⟩
    · cases ho
    · cases ho
    · cases ho
  | invoke f => obtain ⟨_, _, rfl⟩ := step_invoke_iff.mp hs; exact ⟨h1, h2⟩
  | finish f ok =>
    obtain ⟨_, rfl⟩ := step_finish_iff.mp hs
    exact ⟨h1, (finW_doneTx_closed h2).1⟩
  | interrupt => rw [step_interrupt_iff.mp hs]; exact ⟨h1, h2⟩
  | schedEnd => obtain ⟨_, _, _, rfl⟩ := step_schedEnd_iff.mp hs; exact ⟨h1, by simp [h2]⟩
  | ret => obtain ⟨_, _, _, rfl⟩ := step_ret_iff.mp hs; exact ⟨h1, h2⟩

theorem step_sp_ian (h : s.im.ian = true) : step? c s .schedPoll =
    if spBlocked c s then none else some { s with streamEnded := true, readyRxOpen := false } := by
  rw [step_sp, pollNext_ian h]
  rfl

theorem panic_false_eta (X : PState) (h : X.panic = false) : ({ X with panic := false } : PState) = X := by
  rw [← h]

/-- in a closed state a core step reads only what `coreN` keeps, and `coreN` forgets whatever else it
    writes — up to `panic`: the queuer's fold underflows on the forgotten `counts` -/
theorem step_coreN_frame (hian : s.im.ian = true) (a : CA) :
    (step? c (coreN s) a.act).map (fun u => ({ coreN u with panic := false } : PState)) =
      (step? c s a.act).map (fun u => ({ coreN u with panic := false } : PState)) := by
  cases a
  · simp only [CA.act, step_qr, coreN]
    split
    · rfl
    · split <;> rfl
  · simp only [CA.act, step_qe, coreN]
    split <;> rfl
  · have hg : spBlocked c (coreN s) = spBlocked c s := rfl
    simp only [CA.act]
    rw [step_sp_ian hian, step_sp_ian (s := coreN s) hian, hg]
    split <;> rfl
  · simp only [CA.act, step_se, coreN]
    split <;> rfl
  · simp only [CA.act, step_rt, coreN]
    split <;> rfl

theorem simC_step_closed (hc : GoodCfg c) (hrs : Reachable c s) (hrt : Reachable c t)
    (hcl : closedB s = true) (hcore : coreN s = coreN t) (a : CA) (hs : step? c s a.act = some s') :
    ∃ t', step? c t a.act = some t' ∧ SimC s' t' := by
  have hian := (closedB_iff.mp hcl).1
  have hiant : t.im.ian = true := by
    have e : s.im = t.im := by have := congrArg PState.im hcore; exact this
    rw [← e]; exact hian
  have h := step_coreN_frame (c := c) hiant a
  rw [← hcore, step_coreN_frame hian a, hs] at h
  cases ht : step? c t a.act with
  | none => rw [ht] at h; cases h
  | some t' =>
    rw [ht] at h
    refine ⟨t', rfl, simC_of_core (closed_step hcl hs) ?_⟩
    rw [← panic_false_eta (coreN s') ((Reachable.step _ hrs hs).noPanic hc),
      ← panic_false_eta (coreN t') ((Reachable.step _ hrt ht).noPanic hc)]
    exact Option.some.inj h

theorem simC_step (hc : GoodCfg c) (hrs : Reachable c s) (hrt : Reachable c t) (h : SimC s t) (a : CA)
    (hs : step? c s a.act = some s') : ∃ t', step? c t a.act = some t' ∧ SimC s' t' := by
  cases hcl : closedB s with
  | true => exact simC_step_closed hc hrs hrt hcl (simC_closed h hcl) a hs
  | false =>
    obtain ⟨t', ht', hsim⟩ := sim_step a (simC_open h hcl) (rrx_of_reachable hc hrs) hs
    exact ⟨t', ht', hsim.toC⟩

theorem coreEquiv_simC (hc : GoodCfg c) : CoreEquiv c SimC :=
  ⟨SimC.refl, SimC.symm, SimC.trans, fun a hrs hrt h hs => simC_step hc hrs hrt h a hs⟩

theorem Join.of_sim (h : Sim s t) : Join c s t := ⟨[], [], s, t, rfl, rfl, h⟩

theorem Join.of_core {a : CA} (h : step? c s a.act = some s') : Join c s s' :=
  ⟨[a], [], s', s', crun_one h, rfl, Sim.refl _⟩

theorem Join.sim_settle (hc : GoodCfg c) (hrs : Reachable c s) (hrt : Reachable c t) (h : Join c s t)
    (hns : NF c s) : Sim s (FG.settle c t) := by
  have hS := coreEquiv_sim hc
  obtain ⟨as, bs, t1, t2, h1, h2, hs⟩ := h
  have hs2 : Sim s t2 := (hS.nf_run hns hrs h1).symm.trans hs
  have hn2 : NF c t2 := hS.nf hns hs2 hrs (hrt.of_run h2)
  obtain ⟨cs, t5, hcs, hn5, ht5⟩ := settle_core hc hrt
  exact (hs2.trans (core_confluence hc (local_conf hc) hrt h2 hn2 hcs hn5)).trans ht5

theorem settle_run (hc : GoodCfg c) (hr : Reachable c s) {as : List Action}
    (hint : ∀ a ∈ as, a.internal) (h : run c s as = some s') : Sim (settle c s') (settle c s) := by
  obtain ⟨bs, hbs, hrun2⟩ := settleN_run (c := c) (settleFuel c) s'
  exact quiescent_sim_settle hc hr (fun a ha => (List.mem_append.mp ha).elim (hint a) (hbs a))
    ((run_append_of h).trans hrun2) (settle_quiescent_of_inv hc (inv0_reachable hc (hr.of_run h)))

theorem settle_step (hc : GoodCfg c) (hr : Reachable c s) {a : Action} (ha : a.internal)
    (h : step? c s a = some s') : Sim (settle c s') (settle c s) :=
  settle_run hc hr (as := [a]) (fun b hb => List.mem_singleton.mp hb ▸ ha) (by simp only [run, h])

theorem settle_crun (hc : GoodCfg c) (hr : Reachable c s) {as : List CA} (h : crun c s as = some s') :
    Sim (settle c s') (settle c s) :=
  settle_run hc hr (fun a ha => by
    obtain ⟨b, _, rfl⟩ := List.mem_map.mp ha
    exact b.act_internal) h

theorem settle_simC (hc : GoodCfg c) (hrs : Reachable c s) (hrt : Reachable c t) (h : SimC s t) :
    SimC (settle c s) (settle c t) := by
  have hC := coreEquiv_simC hc
  obtain ⟨cs, s5, hcs, hn5, hs5⟩ := settle_core hc hrs
  obtain ⟨t2, ht2, hst⟩ := hC.lift hrs hrt h hcs
  have hrt2 := hrt.of_run ht2
  -- `t2` is a normal form only modulo `SimC`; run on to one modulo `Sim`
  have hn2 : NFE SimC c t2 := hC.nf (fun a s' h => (hn5 a s' h).toC) hst (hrs.of_run hcs) hrt2
  obtain ⟨fs, r3, he3, hn3⟩ := nf_exists hc _ (Nat.le_refl _) hrt2
  obtain ⟨ds, t5, hds, hnt, ht5⟩ := settle_core hc hrt
  have hB : Sim r3 t5 := core_confluence hc (local_conf hc) hrt (by rw [crun_append ht2]; exact he3) hn3 hds hnt
  exact hs5.symm.toC.trans (hst.trans ((hC.nf_run hn2 hrt2 he3).symm.trans (hB.trans ht5).toC))

def JoinC (c : Cfg) (s1 s2 : PState) : Prop :=
  ∃ (as bs : List CA) (t1 t2 : PState), crun c s1 as = some t1 ∧ crun c s2 bs = some t2 ∧ SimC t1 t2

theorem JoinC.simC_settle (hc : GoodCfg c) (hrs : Reachable c s) (hrt : Reachable c t) (h : JoinC c s t) :
    SimC (settle c s) (settle c t) := by
  obtain ⟨as, bs, t1, t2, h1, h2, hs⟩ := h
  exact (settle_crun hc hrs h1).symm.toC.trans
    ((settle_simC hc (hrs.of_run h1) (hrt.of_run h2) hs).trans (settle_crun hc hrt h2).toC)

theorem JoinC.of_settle (hc : GoodCfg c) (hrs : Reachable c s) (hrt : Reachable c t)
    (h : SimC (settle c s) (settle c t)) : JoinC c s t := by
  obtain ⟨cs, s5, hcs, _, hs5⟩ := settle_core hc hrs
  obtain ⟨ds, t5, hds, _, ht5⟩ := settle_core hc hrt
  exact ⟨cs, ds, s5, t5, hcs, hds, hs5.toC.trans (h.trans ht5.symm.toC)⟩

theorem JoinC.of_internal_run (hc : GoodCfg c) (hr : Reachable c s) {as : List Action}
    (hint : ∀ a ∈ as, a.internal) (h : run c s as = some s') : JoinC c s s' := by
  obtain ⟨cs, q5, hcs, hsim⟩ := internal_to_core hc hr hint h
  exact ⟨cs, [], q5, s', hcs, rfl, hsim.toC⟩

end FG
