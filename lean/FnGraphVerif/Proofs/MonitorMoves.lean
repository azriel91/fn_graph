/-
  Proofs/MonitorMoves.lean — the monitor's own moves `advanceUntil`, `settleN`, `settle` are runs of internal actions, along which
  hand-outs and invocations only grow; `trackFut` read event by event (the state an event advances from
  and to, what it appends to the observed lists): use these instead of unfolding `trackFut`.
-/
import FnGraphVerif.Proofs.SettleStep
import FnGraphVerif.Proofs.RunBase
import FnGraphVerif.Proofs.NoteSpecs
namespace FG

variable {c : Cfg}

/-- `Action.internal` is the model's notion (what `settle` may do), `Action.isExternal` the
    monitor's (what an observed event stands for): they are complementary -/
theorem Action.internal_iff {a : Action} : a.internal ↔ a.isExternal = false := by
  cases a <;> simp [Action.internal, Action.isExternal]

/-- `settleN_run` in the monitor's terms -/
theorem settleN_run_notExternal (c : Cfg) (k : Nat) (s : PState) :
    ∃ as, (∀ a ∈ as, a.isExternal = false) ∧ run c s as = some (settleN c k s) := by
  obtain ⟨as, has, hrun⟩ := settleN_run (c := c) k s
  exact ⟨as, fun a ha => Action.internal_iff.mp (has a ha), hrun⟩

theorem settle_run_notExternal (c : Cfg) (s : PState) :
    ∃ as, (∀ a ∈ as, a.isExternal = false) ∧ run c s as = some (settle c s) :=
  settleN_run_notExternal c _ s

/-- `advanceUntil` walks along the path of `settleN` and stops at the FIRST state satisfying `p`; when
    it stops without one, `settleN` with the whole fuel gets no further -/
theorem advanceUntil_settleN (p : PState → Bool) (k : Nat) : ∀ s : PState, ∃ j, j ≤ k ∧
    (advanceUntil c p k s).1 = settleN c j s ∧ (∀ i, i < j → p (settleN c i s) = false) ∧
    (advanceUntil c p k s).2 = p (settleN c j s) ∧
    (p (settleN c j s) = false → settleN c j s = settleN c k s) := by
  induction k with
  | zero => intro s; exact ⟨0, Nat.le_refl _, rfl, fun i hi => absurd hi (Nat.not_lt_zero i), rfl, fun _ => rfl⟩
  | succ k ih =>
    intro s
    unfold advanceUntil
    by_cases hp : p s = true
    · rw [if_pos hp]
      exact ⟨0, Nat.zero_le _, rfl, fun i hi => absurd hi (Nat.not_lt_zero i), hp.symm,
        fun h => absurd (hp.symm.trans h) (by simp)⟩
    · rw [if_neg hp]
      have hps : p s = false := by simpa using hp
      cases h1 : settle1 c s with
      | none =>
        exact ⟨0, Nat.zero_le _, rfl, fun i hi => absurd hi (Nat.not_lt_zero i), hps.symm,
          fun _ => (settleN_of_quiescent h1 (k + 1)).symm⟩
      | some q =>
        obtain ⟨a, s1⟩ := q
        obtain ⟨j, hj, e1, e2, e3, e4⟩ := ih s1
        have hst : ∀ n, settleN c (n + 1) s = settleN c n s1 := settleN_succ_some h1
        refine ⟨j + 1, Nat.succ_le_succ hj, by rw [hst]; exact e1, ?_, by rw [hst]; exact e3,
          by rw [hst, hst]; exact e4⟩
        intro i hi
        cases i with
        | zero => exact hps
        | succ i => rw [hst]; exact e2 i (Nat.lt_of_succ_lt_succ hi)

theorem advanceUntil_run (c : Cfg) (p : PState → Bool) (k : Nat) (s : PState) :
    ∃ as, (∀ a ∈ as, a.isExternal = false) ∧ run c s as = some (advanceUntil c p k s).1 := by
  obtain ⟨j, _, e1, _⟩ := advanceUntil_settleN (c := c) p k s
  rw [e1]
  exact settleN_run_notExternal c j s

/-- the stronger form of `advanceUntil_true`: the state reached is the start state, or the last step
    came from a state in which `p` did not hold -/
theorem advanceUntil_true' (p : PState → Bool) (k : Nat) : ∀ s : PState,
    (advanceUntil c p k s).2 = true →
      p (advanceUntil c p k s).1 = true ∧
      ((advanceUntil c p k s).1 = s ∨
       ∃ s0 a as, (∀ b ∈ as, b.internal) ∧ run c s as = some s0 ∧ p s0 = false ∧
         settle1 c s0 = some (a, (advanceUntil c p k s).1)) := by
  intro s h
  obtain ⟨j, _, e1, e2, e3, _⟩ := advanceUntil_settleN (c := c) p k s
  rw [e3] at h
  rw [e1]
  refine ⟨h, ?_⟩
  cases j with
  | zero => exact .inl rfl
  | succ i =>
    obtain ⟨as, has, hrun⟩ := settleN_run (c := c) i s
    have hp0 := e2 i (Nat.lt_succ_self i)
    have hstep : settleN c (i + 1) s = settleN c 1 (settleN c i s) := settleN_add i 1 s
    cases h1 : settle1 c (settleN c i s) with
    | none => rw [hstep, settleN_of_quiescent h1, hp0] at h; cases h
    | some q =>
      obtain ⟨a, s1⟩ := q
      refine .inr ⟨_, a, as, has, hrun, hp0, ?_⟩
      rw [hstep, settleN_succ_some h1 0]
      exact h1

theorem advanceUntil_true (c : Cfg) (p : PState → Bool) (k : Nat) (s : PState)
    (h : (advanceUntil c p k s).2 = true) : p (advanceUntil c p k s).1 = true :=
  (advanceUntil_true' p k s h).1

theorem run_handedOut_prefix {as : List Action} {s s' : PState} (h : run c s as = some s') :
    s.handedOut <+: s'.handedOut :=
  run_prefix (g := PState.handedOut) step_handedOut_prefix h

theorem advanceUntil_handedOut_prefix (c : Cfg) (p : PState → Bool) (k : Nat) (s : PState) :
    s.handedOut <+: (advanceUntil c p k s).1.handedOut := by
  obtain ⟨as, _, hrun⟩ := advanceUntil_run c p k s
  exact run_handedOut_prefix hrun

theorem run_invoked_prefix {as : List Action} {s s' : PState} (h : run c s as = some s') :
    s.invoked <+: s'.invoked :=
  run_prefix (g := PState.invoked) step_invoked_prefix h

theorem trackRun_cons (x : MonCtx) (t : TrackSt) (e : Ev) (es : List Ev) :
    trackRun x t (e :: es) =
      ((trackRun x (trackFut x t e).1 es).1, (trackFut x t e).2 ++ (trackRun x (trackFut x t e).1 es).2) := rfl

theorem trackRun_append (x : MonCtx) (t : TrackSt) (es fs : List Ev) :
    trackRun x t (es ++ fs) =
      ((trackRun x (trackRun x t es).1 fs).1, (trackRun x t es).2 ++ (trackRun x (trackRun x t es).1 fs).2) := by
  induction es generalizing t with
  | nil => rfl
  | cons e es ih =>
    rw [List.cons_append, trackRun_cons, trackRun_cons, ih]
    simp only [List.append_assoc]

theorem trackRun_singleton (x : MonCtx) (t : TrackSt) (e : Ev) : trackRun x t [e] = trackFut x t e := by
  simp [trackRun]

/-- the state the hand-out event advances from (coop sessions first drain the done queue and move
    the observed function to the front of the ready queue) -/
def handoutStart (x : MonCtx) (t : TrackSt) (f : Nat) : PState :=
  if x.coop then
    let sq := (advanceUntil x.c (fun s => s.doneQ.isEmpty || s.qDone) (trackFuel x.c) t.s).1
    if f ∈ sq.readyQ then { sq with readyQ := f :: sq.readyQ.erase f } else sq
  else t.s

theorem handoutStart_noncoop {x : MonCtx} (hcoop : x.coop = false) (t : TrackSt) (f : Nat) :
    handoutStart x t f = t.s := by
  simp [handoutStart, hcoop]

theorem handoutStart_handedOut_prefix (x : MonCtx) (t : TrackSt) (f : Nat) :
    t.s.handedOut <+: (handoutStart x t f).handedOut := by
  unfold handoutStart
  split
  · have h := advanceUntil_handedOut_prefix x.c (fun s => s.doneQ.isEmpty || s.qDone) (trackFuel x.c) t.s
    simp only
    split
    · exact h
    · exact h
  · exact List.prefix_refl _

def handoutAdv (x : MonCtx) (t : TrackSt) (f : Nat) : PState × Bool :=
  advanceUntil x.c (fun s => decide (t.s.handedOut.length < s.handedOut.length)) (trackFuel x.c)
    (handoutStart x t f)

theorem trackFut_handout_s (x : MonCtx) (t : TrackSt) (f : Nat) :
    (trackFut x t (.handout f)).1.s = (handoutAdv x t f).1 := rfl

theorem trackFut_handout_notes (x : MonCtx) (t : TrackSt) (f : Nat) :
    (trackFut x t (.handout f)).2 =
      [.cmp "R-step" (Ev.handout f).text
        (if (handoutAdv x t f).2 then natsText ((handoutAdv x t f).1.handedOut.drop t.s.handedOut.length)
         else "none-enabled") (toString f)] := rfl

/-- the `interrupt` action is always enabled (`step_int`), so the event is replayed as it stands -/
theorem trackFut_intr (x : MonCtx) (t : TrackSt) :
    trackFut x t .intr = ({ t with s := { t.s with im := { t.s.im with sent := true } } }, []) := by
  show ({ t with s := (step? x.c t.s .interrupt).getD t.s }, []) = _
  rw [step_int]; rfl

/-- the three ways the monitor replays an `invoke` event: the model performs the `invoke` now; or it
    has performed it already during an earlier `settle` / `advanceUntil` (more `f` in `invoked` than observed
    starts of `f`) and the event only catches up; or the model is advanced until it has started `f` -/
def invokeAdv (x : MonCtx) (t : TrackSt) (f : Nat) : PState × Bool :=
  if f ∈ t.s.inflight ∧ f ∉ t.s.invoked then ((step? x.c t.s (.invoke f)).getD t.s, true)
  else if f ∈ t.s.invoked ∧ (t.realInvoked.count f < t.s.invoked.count f) then (t.s, true)
  else advanceUntil x.c (fun s => decide (f ∈ s.invoked)) (trackFuel x.c) t.s

theorem trackFut_invoke (x : MonCtx) (t : TrackSt) (f : Nat) :
    trackFut x t (.invoke f) =
      ({ t with s := (invokeAdv x t f).1, realInvoked := t.realInvoked ++ [f] },
       [.cmp "R-step" (Ev.invoke f).text (if (invokeAdv x t f).2 then "enabled" else "not-enabled") "enabled"]) :=
  rfl

theorem invokeAdv_run (x : MonCtx) (t : TrackSt) (f : Nat) :
    ∃ as, (∀ a ∈ as, a.isExternal = false) ∧ run x.c t.s as = some (invokeAdv x t f).1 := by
  unfold invokeAdv
  split
  · rename_i hg
    have hs : step? x.c t.s (.invoke f) = some { t.s with invoked := t.s.invoked ++ [f] } :=
      step_invoke_iff.mpr ⟨hg.1, hg.2, rfl⟩
    refine ⟨[.invoke f], ?_, ?_⟩
    · intro a ha
      rw [List.mem_singleton.mp ha]
      rfl
    · simp only [run, hs, Option.getD_some]
  · split
    · exact ⟨[], by simp, rfl⟩
    · exact advanceUntil_run _ _ _ _

/-- the state in which the monitor tries the `finish` action -/
def finStart (x : MonCtx) (t : TrackSt) (f : Nat) : PState :=
  if f ∈ t.s.invoked then t.s
  else (advanceUntil x.c (fun s => decide (f ∈ s.invoked)) (trackFuel x.c) t.s).1

theorem finStart_run (x : MonCtx) (t : TrackSt) (f : Nat) :
    ∃ as, (∀ a ∈ as, a.isExternal = false) ∧ run x.c t.s as = some (finStart x t f) := by
  unfold finStart
  split
  · exact ⟨[], by simp, rfl⟩
  · exact advanceUntil_run _ _ _ _

theorem trackFut_fin (x : MonCtx) (t : TrackSt) (f : Nat) (ok : Bool) :
    trackFut x t (.fin f ok) =
      match step? x.c (finStart x t f) (.finish f ok) with
      | some s' => ({ t with s := s' }, [.cmp "R-step" (Ev.fin f ok).text "enabled" "enabled"])
      | none => ({ t with s := finStart x t f }, [.cmp "R-step" (Ev.fin f ok).text "not-enabled" "enabled"]) := rfl

theorem trackFut_fin_enabled {x : MonCtx} {t : TrackSt} {f : Nat} {ok : Bool}
    (hok : ∀ n ∈ (trackFut x t (.fin f ok)).2, n.ok = true) :
    step? x.c (finStart x t f) (.finish f ok) = some (trackFut x t (.fin f ok)).1.s := by
  rw [trackFut_fin] at hok ⊢
  cases hs : step? x.c (finStart x t f) (.finish f ok) with
  | some s' => rfl
  | none =>
    exfalso
    rw [hs] at hok
    have := hok _ List.mem_cons_self
    exact absurd (Note.ok_cmp.mp this) (by decide)

theorem trackFut_q_s (x : MonCtx) (t : TrackSt) : (trackFut x t .q).1.s = settle x.c t.s := rfl

theorem trackFut_q_notes (x : MonCtx) (t : TrackSt) :
    (trackFut x t .q).2 =
     [.cmp "R-quiesce" (Ev.q.text ++ " returned") (toString (settle x.c t.s).result.isSome) "false",
      .cmp "R-quiesce" (Ev.q.text ++ " invoked") (natsText (settle x.c t.s).invoked) (natsText t.realInvoked)]
     ++ (if t.sawHandoutHook || t.realInvoked.isEmpty then
           [.cmp "R-quiesce" (Ev.q.text ++ " handedOut") (natsText (settle x.c t.s).handedOut) (natsText t.realHandout)] else [])
     ++ [.cmp "R-quiesce" (Ev.q.text ++ " panic") (toString (settle x.c t.s).panic) "false"] := rfl

theorem trackFut_retOutcome_s (x : MonCtx) (t : TrackSt) (fnd : Bool) (p np errs : List Nat) (fl : String) :
    (trackFut x t (.retOutcome fnd p np errs fl)).1.s = settle x.c t.s := rfl

theorem trackFut_retOutcome_notes (x : MonCtx) (t : TrackSt) (fnd : Bool) (p np errs : List Nat) (fl : String) :
    (trackFut x t (.retOutcome fnd p np errs fl)).2 =
      [.cmp "R-outcome" (Ev.retOutcome fnd p np errs fl).text
        (match (settle x.c t.s).result with | some r => retText r x.control | none => "not-returned")
        (Ev.retOutcome fnd p np (errs.mergeSort (· ≤ ·)) fl).text] := rfl

theorem trackFut_retErr_s (x : MonCtx) (t : TrackSt) (f : Nat) :
    (trackFut x t (.retErr f)).1.s = settle x.c t.s := rfl

theorem trackFut_retErr_notes (x : MonCtx) (t : TrackSt) (f : Nat) :
    (trackFut x t (.retErr f)).2 =
      [.cmp "R-outcome" (Ev.retErr f).text
        (match (settle x.c t.s).result with | some r => retText r x.control | none => "not-returned")
        (Ev.retErr f).text] := rfl

theorem returned_of_text {res : Option Ret} {control : Bool} {txt : String} (hne : "not-returned" ≠ txt)
    (h : (match res with | some r => retText r control | none => "not-returned") = txt) :
    ∃ r, res = some r ∧ retText r control = txt := by
  cases res with
  | none => exact absurd h hne
  | some r => exact ⟨r, rfl, h⟩

theorem trackFut_real (x : MonCtx) (t : TrackSt) (e : Ev) :
    (trackFut x t e).1.realInvoked = t.realInvoked ++ (Ev.invoke? e).toList ∧
    (trackFut x t e).1.realHandout = t.realHandout ++ (Ev.handout? e).toList := by
  -- only `invoke` and `handout` append something; elsewhere both lists stay and `_ ++ []` is read off
  cases e with
  | fin f ok =>
    rw [trackFut_fin]
    split <;> exact ⟨(List.append_nil _).symm, (List.append_nil _).symm⟩
  | handout f => exact ⟨(List.append_nil _).symm, rfl⟩
  | invoke f => exact ⟨rfl, (List.append_nil _).symm⟩
  | _ => exact ⟨(List.append_nil _).symm, (List.append_nil _).symm⟩

theorem settle_handedOut_prefix (c : Cfg) (s : PState) : s.handedOut <+: (settle c s).handedOut := by
  obtain ⟨as, _, hrun⟩ := settleN_run (c := c) (settleFuel c) s
  exact run_handedOut_prefix hrun

theorem settle_invoked_prefix (c : Cfg) (s : PState) : s.invoked <+: (settle c s).invoked := by
  obtain ⟨as, _, hrun⟩ := settleN_run (c := c) (settleFuel c) s
  exact run_invoked_prefix hrun

end FG
