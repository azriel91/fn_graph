/-
  Proofs/EdgePairs.lean — the list of ordered pairs of a graph (`pairs`): `Simple` (duplicate-free
  neighbour lists) says it has no duplicates; overwriting a kind keeps it, appending a new pair
  keeps `Simple`; the flipped graph; a decidable criterion for `GoodG`; `findEdge` facts.
-/
import FnGraphVerif.Proofs.BuilderInv
namespace FG

/-- the ordered pairs a graph joins, in edge order -/
def pairs (g : Dag) : List (Nat × Nat) := g.edges.map (fun e => (e.src, e.tgt))

theorem isEdge_iff_mem_pairs {g : Dag} {u v : Nat} : IsEdge g u v ↔ (u, v) ∈ pairs g := by
  simp only [IsEdge, pairs, List.mem_map, Prod.mk.injEq]

theorem pairs_set_kind {g : Dag} {i : Nat} {a c : Nat} {k : Kind}
    (hi : ∃ e, g.edges[i]? = some e ∧ e.src = a ∧ e.tgt = c) :
    pairs { g with edges := g.edges.set i ⟨a, c, k⟩ } = pairs g := by
  obtain ⟨e0, he0, rfl, rfl⟩ := hi
  obtain ⟨hlt, rfl⟩ := List.getElem?_eq_some_iff.mp he0
  unfold pairs
  rw [List.map_set]
  have : (g.edges.map fun e => (e.src, e.tgt))[i]'(by rw [List.length_map]; exact hlt) = (g.edges[i].src, g.edges[i].tgt) :=
    List.getElem_map ..
  rw [← this, List.set_getElem_self]

theorem isEdge_set_kind {g : Dag} {i : Nat} {a c : Nat} {k : Kind}
    (hi : ∃ e, g.edges[i]? = some e ∧ e.src = a ∧ e.tgt = c) {u v : Nat} :
    IsEdge { g with edges := g.edges.set i ⟨a, c, k⟩ } u v ↔ IsEdge g u v := by
  rw [isEdge_iff_mem_pairs, isEdge_iff_mem_pairs, pairs_set_kind hi]

theorem children_flip (g : Dag) (u : Nat) : children g.flip u = parents g u := by
  unfold children parents Dag.flip
  simp only [← List.map_reverse, List.filter_map, List.map_map]
  rfl

theorem parents_flip (g : Dag) (u : Nat) : parents g.flip u = children g u := by
  unfold children parents Dag.flip
  simp only [← List.map_reverse, List.filter_map, List.map_map]
  rfl

theorem isEdge_flip {g : Dag} {u v : Nat} : IsEdge g.flip u v ↔ IsEdge g v u := by
  rw [← mem_children, children_flip, mem_parents]

theorem reachP_flip {g : Dag} {u v : Nat} (h : ReachP g.flip u v) : ReachP g v u := by
  induction h with
  | edge he => exact ReachP.edge (isEdge_flip.mp he)
  | tail _ he ih => exact ReachP.trans (ReachP.edge (isEdge_flip.mp he)) ih

def flipE (e : Edge) : Edge := { e with src := e.tgt, tgt := e.src }

theorem flip_eq (g : Dag) : g.flip = ⟨g.n, g.edges.map flipE⟩ := rfl

theorem WF.flip {g : Dag} (hwf : WF g) : WF g.flip := by
  intro e he
  obtain ⟨e0, he0, rfl⟩ := List.mem_map.mp he
  exact ⟨(hwf e0 he0).2, (hwf e0 he0).1⟩

theorem Acyclic.flip {g : Dag} (hac : Acyclic g) : Acyclic g.flip :=
  fun u hu => hac u (reachP_flip hu)

theorem children_nodup_iff (g : Dag) (u : Nat) :
    (children g u).Nodup ↔
      g.edges.Pairwise (fun e1 e2 => e1.src = u → e2.src = u → e1.tgt ≠ e2.tgt) := by
  unfold children
  rw [List.Nodup, List.pairwise_map, List.pairwise_filter, List.pairwise_reverse]
  constructor
  · intro h; refine h.imp ?_
    intro e1 e2 hh h1 h2 ht
    exact hh (by simpa using h2) (by simpa using h1) ht.symm
  · intro h; refine h.imp ?_
    intro e1 e2 hh h2 h1 ht
    exact hh (by simpa using h1) (by simpa using h2) ht.symm

theorem parents_nodup_iff (g : Dag) (v : Nat) :
    (parents g v).Nodup ↔
      g.edges.Pairwise (fun e1 e2 => e1.tgt = v → e2.tgt = v → e1.src ≠ e2.src) := by
  rw [← children_flip, children_nodup_iff]
  exact List.pairwise_map

theorem pairs_nodup_iff (g : Dag) :
    (pairs g).Nodup ↔ g.edges.Pairwise (fun e1 e2 => ¬ (e1.src = e2.src ∧ e1.tgt = e2.tgt)) := by
  unfold pairs
  rw [List.Nodup, List.pairwise_map]
  simp only [ne_eq, Prod.mk.injEq]

theorem simple_iff_pairs_nodup (g : Dag) : Simple g ↔ (pairs g).Nodup := by
  rw [pairs_nodup_iff]
  constructor
  · intro h
    rw [List.pairwise_iff_getElem]
    intro i j hi hj hij hst
    have hc := (children_nodup_iff g (g.edges[i]).src).mp (h _).1
    rw [List.pairwise_iff_getElem] at hc
    exact hc i j hi hj hij rfl hst.1.symm hst.2
  · intro h u
    refine ⟨(children_nodup_iff g u).mpr (h.imp ?_), (parents_nodup_iff g u).mpr (h.imp ?_)⟩
    · intro e1 e2 hh h1 h2 ht; exact hh ⟨h1.trans h2.symm, ht⟩
    · intro e1 e2 hh h1 h2 hs; exact hh ⟨hs, h1.trans h2.symm⟩

theorem simple_iff_index_inj (g : Dag) : Simple g ↔
    ∀ (i j : Nat) (e1 e2 : Edge), g.edges[i]? = some e1 → g.edges[j]? = some e2 →
      e1.src = e2.src → e1.tgt = e2.tgt → i = j := by
  rw [simple_iff_pairs_nodup, pairs_nodup_iff, List.pairwise_iff_getElem]
  constructor
  · intro h i j e1 e2 h1 h2 hs ht
    obtain ⟨hi, rfl⟩ := List.getElem?_eq_some_iff.mp h1
    obtain ⟨hj, rfl⟩ := List.getElem?_eq_some_iff.mp h2
    rcases Nat.lt_trichotomy i j with hij | hij | hij
    · exact absurd ⟨hs, ht⟩ (h i j hi hj hij)
    · exact hij
    · exact absurd ⟨hs.symm, ht.symm⟩ (h j i hj hi hij)
  · intro h i j hi hj hij hst
    have := h i j g.edges[i] g.edges[j] (List.getElem?_eq_getElem hi) (List.getElem?_eq_getElem hj) hst.1 hst.2
    omega

/-- a decidable sufficient condition for `GoodG`, for the concrete graphs of the examples -/
theorem goodG_of_increasing {g : Dag} (h : ∀ e ∈ g.edges, e.src < e.tgt ∧ e.tgt < g.n)
    (hp : (pairs g).Nodup) : GoodG g :=
  ⟨fun e he => ⟨Nat.lt_trans (h e he).1 (h e he).2, (h e he).2⟩, (simple_iff_pairs_nodup g).mpr hp,
    Fwd.acyclic (f := id) (by rintro u v ⟨e, he, rfl, rfl⟩; exact (h e he).1)⟩

theorem children_addE (g : Dag) (e : Edge) (u : Nat) :
    children (addE g e) u = (if e.src = u then [e.tgt] else []) ++ children g u := by
  unfold children addE
  simp only [List.reverse_append, List.reverse_cons, List.reverse_nil, List.nil_append,
    List.cons_append, List.filter_cons, beq_iff_eq]
  split <;> simp

theorem parents_addE (g : Dag) (e : Edge) (v : Nat) :
    parents (addE g e) v = (if e.tgt = v then [e.src] else []) ++ parents g v := by
  unfold parents addE
  simp only [List.reverse_append, List.reverse_cons, List.reverse_nil, List.nil_append,
    List.cons_append, List.filter_cons, beq_iff_eq]
  split <;> simp

theorem simple_addE {g : Dag} {e : Edge} (hs : Simple g) (hne : ¬ IsEdge g e.src e.tgt) :
    Simple (addE g e) := by
  rw [simple_iff_pairs_nodup] at hs ⊢
  rw [show pairs (addE g e) = pairs g ++ [(e.src, e.tgt)] from List.map_append]
  exact nodup_append_singleton.mpr ⟨hs, fun h => hne (isEdge_iff_mem_pairs.mpr h)⟩

theorem findEdge_some {g : Dag} {a c i : Nat} (h : findEdge g a c = some i) :
    ∃ e, g.edges[i]? = some e ∧ e.src = a ∧ e.tgt = c := by
  unfold findEdge at h
  rw [List.findIdx?_eq_some_iff_getElem] at h
  obtain ⟨hi, hp, _⟩ := h
  refine ⟨g.edges[i], List.getElem?_eq_getElem hi, ?_⟩
  simpa using hp

theorem findEdge_none {g : Dag} {a c : Nat} (h : findEdge g a c = none) : ¬ IsEdge g a c := by
  unfold findEdge at h
  rw [List.findIdx?_eq_none_iff] at h
  rintro ⟨e, he, hs, ht⟩
  have := h e he
  simp [hs, ht] at this

theorem findEdge_isEdge {g : Dag} {a c i : Nat} (h : findEdge g a c = some i) : IsEdge g a c := by
  obtain ⟨e, he, hs, ht⟩ := findEdge_some h
  exact ⟨e, List.mem_of_getElem? he, hs, ht⟩

end FG
