/-
  Proofs/PredEvents.lean — the specification predicates `predFut` event by event: what an event does
  to the predicate state (projection lemmas; use these instead of unfolding `predFut`),
  and, from hypotheses stated on the predicate state alone, which of the emitted notes are ok.  No
  model facts here; `Proofs/PredCoupling.lean` supplies the hypotheses from the coupling between the
  predicate state and the model state.

  A hypothesis that is available only for some runs stands behind a guard (`Note.Open`): the
  conclusion is "the note is ok, or it is the note that needs the guard and the guard fails".
-/
import FnGraphVerif.Proofs.NoteSpecs
namespace FG

theorem predRun_append (x : MonCtx) (m : PredSt) (l1 l2 : List Ev) :
    predRun x m (l1 ++ l2) =
      ((predRun x (predRun x m l1).1 l2).1, (predRun x m l1).2 ++ (predRun x (predRun x m l1).1 l2).2) := by
  induction l1 generalizing m with
  | nil => simp [predRun]
  | cons e l1 ih => simp only [List.cons_append, predRun, ih, List.append_assoc]

theorem predRun_nil (x : MonCtx) (m : PredSt) : predRun x m [] = (m, []) := rfl

theorem predRun_singleton (x : MonCtx) (m : PredSt) (e : Ev) : predRun x m [e] = predFut x m e := by
  simp [predRun]

theorem predFut_intr_fst (x : MonCtx) (m : PredSt) :
    (predFut x m .intr).1 =
      { m with nEv := m.nEv + 1,
               intrAt := (match m.intrAt with | none => some m.realInvoked.length | y => y),
               intrPre := if m.intrAt.isNone then m.nEv == 0 else m.intrPre } := rfl

theorem predFut_intr_snd (x : MonCtx) (m : PredSt) : (predFut x m .intr).2 = [] := rfl

theorem predFut_fin_snd (x : MonCtx) (m : PredSt) (f : Nat) (ok : Bool) :
    (predFut x m (.fin f ok)).2 =
      if ok then [] else
        [.prop "C07" ((Ev.fin f ok).text ++ " (a function ordered after it was started before)")
          (m.realInvoked.all (fun g => !reachPlus x.c.D f g))] := rfl

/-- the note of a failure, its text and value given: comparing texts is slow to check, so a concrete
    text is evaluated once and passed in -/
theorem predFut_fin_false_snd (x : MonCtx) (m : PredSt) (f : Nat) {wh : String} {b : Bool}
    (hwh : (Ev.fin f false).text ++ " (a function ordered after it was started before)" = wh)
    (hb : (m.realInvoked.all fun g => !reachPlus x.c.D f g) = b) :
    (predFut x m (.fin f false)).2 = [.prop "C07" wh b] := by
  rw [predFut_fin_snd, hwh, hb]; rfl

theorem predFut_q_fst (x : MonCtx) (m : PredSt) :
    (predFut x m .q).1 = { m with nEv := m.nEv + 1 } := rfl

theorem Ev.ended?_eq_some {e : Ev} {f : Nat} :
    Ev.ended? e = some f ↔ Ev.endedOk? e = some f ∨ Ev.failed? e = some f := by
  cases e with
  | fin g ok => cases ok <;> simp [Ev.ended?, Ev.endedOk?, Ev.failed?]
  | _ => simp [Ev.ended?, Ev.endedOk?, Ev.failed?]

theorem mem_filterMap_ended {f : Nat} {evs : List Ev} :
    f ∈ evs.filterMap Ev.ended? ↔ f ∈ evs.filterMap Ev.endedOk? ∨ f ∈ evs.filterMap Ev.failed? := by
  simp only [List.mem_filterMap, Ev.ended?_eq_some]
  constructor
  · rintro ⟨e, he, h | h⟩
    · exact .inl ⟨e, he, h⟩
    · exact .inr ⟨e, he, h⟩
  · rintro (⟨e, he, h⟩ | ⟨e, he, h⟩)
    · exact ⟨e, he, .inl h⟩
    · exact ⟨e, he, .inr h⟩

theorem predFut_realHandout (x : MonCtx) (m : PredSt) (e : Ev) :
    (predFut x m e).1.realHandout = m.realHandout ++ (Ev.handout? e).toList := by
  cases e <;> first | exact (List.append_nil _).symm | rfl

theorem predFut_realInvoked (x : MonCtx) (m : PredSt) (e : Ev) :
    (predFut x m e).1.realInvoked = m.realInvoked ++ (Ev.invoke? e).toList := by
  cases e <;> first | exact (List.append_nil _).symm | rfl

theorem predFut_realEndedOk (x : MonCtx) (m : PredSt) (e : Ev) :
    (predFut x m e).1.realEndedOk = m.realEndedOk ++ (Ev.endedOk? e).toList := by
  cases e with
  | fin f ok => cases ok <;> first | exact (List.append_nil _).symm | rfl
  | _ => exact (List.append_nil _).symm

theorem predFut_realFailed (x : MonCtx) (m : PredSt) (e : Ev) :
    (predFut x m e).1.realFailed = m.realFailed ++ (Ev.failed? e).toList := by
  cases e with
  | fin f ok => cases ok <;> first | exact (List.append_nil _).symm | rfl
  | _ => exact (List.append_nil _).symm

theorem predFut_realEnded (x : MonCtx) (m : PredSt) (e : Ev) :
    (predFut x m e).1.realEnded = m.realEnded ++ (Ev.ended? e).toList := by
  cases e <;> first | exact (List.append_nil _).symm | rfl

theorem predRun_field_eq_filterMap (x : MonCtx) {g : PredSt → List Nat} {k : Ev → Option Nat}
    (h : ∀ m e, g (predFut x m e).1 = g m ++ (k e).toList) :
    ∀ (evs : List Ev) (m : PredSt), g (predRun x m evs).1 = g m ++ evs.filterMap k := by
  intro evs
  induction evs with
  | nil => exact fun m => (List.append_nil _).symm
  | cons e evs ih =>
    intro m
    rw [show (predRun x m (e :: evs)).1 = (predRun x (predFut x m e).1 evs).1 from rfl, ih, h,
      List.append_assoc]
    cases hk : k e <;> simp [hk]

theorem predFut_keeps (x : MonCtx) (m : PredSt) {e : Ev} (he : e ≠ .intr) :
    (predFut x m e).1.intrAt = m.intrAt ∧ (predFut x m e).1.intrPre = m.intrPre ∧
    (predFut x m e).1.nEv = m.nEv + 1 := by
  cases e <;> first | exact ⟨rfl, rfl, rfl⟩ | exact absurd rfl he

theorem predRun_keeps (x : MonCtx) {evs : List Ev} (he : Ev.intr ∉ evs) : ∀ m : PredSt,
    (predRun x m evs).1.intrAt = m.intrAt ∧ (predRun x m evs).1.intrPre = m.intrPre ∧
    (predRun x m evs).1.nEv = m.nEv + evs.length := by
  induction evs with
  | nil => exact fun m => ⟨rfl, rfl, rfl⟩
  | cons e evs ih =>
    intro m
    obtain ⟨h1, h2, h3⟩ := predFut_keeps x m (e := e) (fun h => he (h ▸ List.mem_cons_self))
    obtain ⟨i1, i2, i3⟩ := ih (fun h => he (List.mem_cons_of_mem _ h)) (predFut x m e).1
    exact ⟨i1.trans h1, i2.trans h2, by rw [predRun, i3, h3, List.length_cons]; omega⟩

/-- the started functions, in the order of their starts, are an initial segment of the hand-outs -/
def StartsFollowHandouts (m : PredSt) (evs : List Ev) : Prop :=
  (m.realInvoked ++ evs.filterMap Ev.invoke?) <+: (m.realHandout ++ evs.filterMap Ev.handout?)

theorem startsFollowHandouts_predRun (x : MonCtx) (evs tail : List Ev) (m : PredSt) :
    StartsFollowHandouts m (evs ++ tail) ↔ StartsFollowHandouts (predRun x m evs).1 tail := by
  unfold StartsFollowHandouts
  rw [predRun_field_eq_filterMap x (predFut_realInvoked x), predRun_field_eq_filterMap x (predFut_realHandout x),
    List.filterMap_append, List.filterMap_append, List.append_assoc, List.append_assoc]

def Note.property : Note → String
  | .prop p _ _ => p
  | .cmp _ _ _ _ => ""

/-- the one predicate that is NOT true of every model run: the `processed` list of the outcome is
    the list of started functions IN THE ORDER OF THEIR STARTS -/
def Note.isProcStarted : Note → Prop
  | .prop p wh _ => p = "C09" ∧ ∃ w, wh = w ++ " processed=started"
  | _ => False

/-- the six properties whose notes hold from any carried start once the predicate state knows of the
    signal (`preds_holdW_safety_seeded`) -/
def safetyProps : List String := ["C01", "C02", "C03", "C04", "C07", "C10"]

/-- the notes that presuppose a run in which the interrupt machine never saw a signal:
    `C03 … clean-all` (a clean run hands out everything),
    `C10 … idle below limit l with a ready function unstarted` (a limit is work-conserving) and the
    form of the latter for `limit = some 0` (= unbounded),
    `C10 … limit 0 means unbounded, yet a ready function is unstarted` -/
def Note.isCleanNote : Note → Prop
  | .prop p wh _ =>
    (p = "C03" ∧ ∃ w, wh = w ++ " clean-all") ∨
    (p = "C10" ∧ ∃ (w : String) (l : Nat), wh = w ++ s!" idle below limit {l+1} with a ready function unstarted") ∨
    (p = "C10" ∧ ∃ w : String, wh = w ++ " limit 0 means unbounded, yet a ready function is unstarted")
  | _ => False

theorem Note.isProcStarted_property {n : Note} (h : n.isProcStarted) : n.property = "C09" := by
  cases n with
  | cmp => exact h.elim
  | prop p wh b => exact h.1

theorem Note.isCleanNote_property {n : Note} (h : n.isCleanNote) : n.property = "C03" ∨ n.property = "C10" := by
  cases n with
  | cmp => exact h.elim
  | prop p wh b =>
    rcases h with ⟨h1, _⟩ | ⟨h1, _⟩ | ⟨h1, _⟩
    · exact Or.inl h1
    · exact Or.inr h1
    · exact Or.inr h1

/-- What is NOT shown of a note, guard by guard:
    `P` — closures are started in hand-out order (the C09 note "processed=started");
    `K` — when the predicate state has seen no signal, the interrupt machine has seen none either
          (the clean-run notes and the C06 note: work conservation, clean-all);
    `G` — the run starts from `init` with the fresh predicate state (C08: the bound on starts after
          the signal and "a signal changes nothing" are theorems about runs from `init`);
    `C` — a signal is carried into a `FinishCurrent` / `PollNextN(0)` run, which then starts nothing
          (the other way to C08). -/
def Note.Open (P K G C : Prop) (n : Note) : Prop :=
  (n.isProcStarted ∧ ¬ P) ∨ ((n.isCleanNote ∨ n.property = "C06") ∧ ¬ K) ∨
  (n.property = "C08" ∧ ¬ G ∧ ¬ C)

theorem Note.Open.congr_P {P Q K G C : Prop} {n : Note} (h : P ↔ Q) (ho : n.Open P K G C) : n.Open Q K G C :=
  ho.imp_left fun hp => ⟨hp.1, fun hq => hp.2 (h.mpr hq)⟩

theorem Note.Open.safety {P K C : Prop} {n : Note} (ho : n.Open P K False C)
    (hp : n.property ∈ safetyProps) : n.isCleanNote ∧ ¬ K := by
  rcases ho with ⟨h1, _⟩ | ⟨h1 | h1, hK⟩ | ⟨h1, _⟩
  · exact absurd (Note.isProcStarted_property h1 ▸ hp) (by decide)
  · exact ⟨h1, hK⟩
  · exact absurd (h1 ▸ hp) (by decide)
  · exact absurd (h1 ▸ hp) (by decide)

theorem Note.Open.not_c08 {P K G C : Prop} {n : Note} (ho : n.Open P K G C) (hC : C) :
    n.property ≠ "C08" := by
  intro hp
  rcases ho with ⟨h1, _⟩ | ⟨h1 | h1, _⟩ | ⟨_, _, h2⟩
  · exact absurd ((Note.isProcStarted_property h1).symm.trans hp) (by decide)
  · rcases Note.isCleanNote_property h1 with h2 | h2 <;> exact absurd (h2.symm.trans hp) (by decide)
  · exact absurd (h1.symm.trans hp) (by decide)
  · exact h2 hC

theorem predFut_handout_ok (x : MonCtx) (m : PredSt) (f : Nat) (h : f ∉ m.realHandout) :
    ∀ n ∈ (predFut x m (.handout f)).2, n.ok = true := by
  simp only [predFut, List.mem_singleton]
  rintro n rfl
  simp [Note.ok, h]

/-- C07 at a failure: nothing ordered after the failing function has been started before -/
theorem predFut_fin_ok (x : MonCtx) (m : PredSt) (f : Nat) (ok : Bool)
    (h7 : ok = false → ∀ g ∈ m.realInvoked, reachPlus x.c.D f g = false) :
    ∀ n ∈ (predFut x m (.fin f ok)).2, n.ok = true := by
  rw [predFut_fin_snd]
  cases ok with
  | true => intro n hn; cases hn
  | false =>
    simp only [Bool.false_eq_true, if_false, List.mem_singleton]
    rintro n rfl
    simp only [Note.ok, List.all_eq_true, Bool.not_eq_true']
    exact h7 rfl

theorem predFut_invoke_snd (x : MonCtx) (m : PredSt) (f : Nat) :
    (predFut x m (.invoke f)).2 =
      startNotes x (Ev.invoke f).text m.realInvoked m.realInflight m.realEndedOk f ++
      [.prop "C07" (Ev.invoke f).text (m.realFailed.all (fun y => !reachPlus x.c.D y f)),
       .prop "C07" ((Ev.invoke f).text ++ " (conflicts with a failed function)")
         (m.realFailed.all (fun y => y == f || !conflict (declOf x.decls y) (declOf x.decls f))),
       .prop "C10" (Ev.invoke f).text
         (match (if x.c.sequential then some 1 else match x.c.limit with | some 0 => none | l => l) with
          | some l => decide (m.realInflight.length + 1 ≤ l) | none => true)] ++
      c08Notes (Ev.invoke f).text m.intrAt (boundOf x.c.strat x.c.incl m.intrPre) m.intrQuiescent
        m.realInvoked.length := rfl

/-- `invoke`: C03 (no double start), C01, C02, C07, C10; the C08 bound on starts after the signal
    under `G ∨ C` -/
theorem predFut_invoke_spec (P K G C : Prop) (x : MonCtx) (m : PredSt) (f : Nat)
    (h3 : f ∉ m.realInvoked)
    (h1 : conflictInflightB x.decls m.realInflight f = false)
    (h2 : ∀ u, reachPlus (if x.rev then x.userD.flip else x.userD) u f = true → u ∈ m.realEndedOk)
    (h1b : ∀ p ∈ parents x.c.D f, p ∈ m.realEndedOk)
    (h7 : ∀ y ∈ m.realFailed, reachPlus x.c.D y f = false)
    (h7c : ∀ y ∈ m.realFailed, y = f ∨ conflict (declOf x.decls y) (declOf x.decls f) = false)
    (h10s : x.c.sequential = true → m.realInflight.length + 1 ≤ 1)
    (h10p : x.c.sequential = false → ∀ l, x.c.limit = some (l + 1) → m.realInflight.length + 1 ≤ l + 1)
    (h8 : G ∨ C → ∀ k b, m.intrAt = some k → boundOf x.c.strat x.c.incl m.intrPre = some b →
      m.realInvoked.length + 1 - k ≤ b) :
    ∀ n ∈ (predFut x m (.invoke f)).2, n.ok = true ∨ n.Open P K G C := by
  rw [predFut_invoke_snd]
  intro n hn
  rcases List.mem_append.mp hn with hn | hn
  · left
    rcases List.mem_append.mp hn with hn | hn
    · exact startNotes_ok h3 h1 h2 h1b n hn
    · simp only [List.mem_cons, List.not_mem_nil, or_false] at hn
      rcases hn with rfl | rfl | rfl
      · exact List.all_eq_true.mpr fun y hy => by rw [h7 y hy]; rfl
      · refine List.all_eq_true.mpr fun y hy => Bool.or_eq_true_iff.mpr ((h7c y hy).imp beq_iff_eq.mpr ?_)
        intro hc; rw [hc]; rfl
      · -- the limit in force: 1 when sequential, `l + 1` for `some (l + 1)`, none otherwise
        cases hs : x.c.sequential with
        | true => exact decide_eq_true (h10s hs)
        | false =>
          rcases hl : x.c.limit with _ | _ | l
          · rfl
          · rfl
          · exact decide_eq_true (h10p hs l hl)
  · refine c08Notes_spec (Q := fun n => n.ok = true ∨ n.Open P K G C) (fun k b hk hb _ => ?_) n hn
    by_cases hB : G ∨ C
    · exact .inl (decide_eq_true (h8 hB k b hk hb))
    · exact .inr (.inr (.inr ⟨rfl, fun g => hB (.inl g), fun c => hB (.inr c)⟩))

/-- `q`: C04 (pending with nothing in flight is a deadlock) and the clauses of C03 / C07 / C08 / C10
    that read the same observation; work conservation (C06, C10) under `K` -/
theorem predFut_q_spec (P K G C : Prop) (x : MonCtx) (m : PredSt)
    (hdead : m.realInflight ≠ [])
    (hwc : K → m.intrAt = none → m.realFailed = [] → x.c.sequential = false →
      (x.c.limit = none ∨ x.c.limit = some 0 ∨
        ∃ l, x.c.limit = some (l + 1) ∧ m.realInflight.length < l + 1) →
      allBlockedB x.c m.realInvoked m.realEndedOk = true) :
    ∀ n ∈ (predFut x m .q).2, n.ok = true ∨ n.Open P K G C := by
  have hd : m.realInflight.isEmpty = false := by
    cases h : m.realInflight with
    | nil => exact absurd h hdead
    | cons a l => rfl
  simp only [predFut, hd, Bool.not_false]
  intro n hn
  -- the notes whose value is `!dead`
  have one : ∀ {p : Prop} [Decidable p] {q wh : String},
      n ∈ (if p then [Note.prop q wh true] else []) → n.ok = true ∨ n.Open P K G C :=
    fun hn => .inl (mem_guarded (Q := fun n => n.ok = true) (fun _ => rfl) hn)
  -- work conservation: ok under `K`, else open as the named note
  have wc : ∀ {p : Prop} [Decidable p] {q wh : String},
      (Note.prop q wh (allBlockedB x.c m.realInvoked m.realEndedOk)).isCleanNote ∨ q = "C06" →
      (p → m.intrAt = none ∧ m.realFailed = [] ∧ x.c.sequential = false ∧
        (x.c.limit = none ∨ x.c.limit = some 0 ∨
          ∃ l, x.c.limit = some (l + 1) ∧ m.realInflight.length < l + 1)) →
      n ∈ (if p then [Note.prop q wh (allBlockedB x.c m.realInvoked m.realEndedOk)] else []) →
      n.ok = true ∨ n.Open P K G C := by
    intro p _ q wh hq hp hn
    refine mem_guarded (Q := fun n => n.ok = true ∨ n.Open P K G C) (fun h => ?_) hn
    obtain ⟨h1, h2, h3, h4⟩ := hp h
    by_cases hK : K
    · exact .inl (hwc hK h1 h2 h3 h4)
    · exact .inr (.inr (.inl ⟨hq, hK⟩))
  simp only [List.mem_append] at hn
  -- C04; C03 clean; C07; C08; C10 limit blocks (all `!dead`); C06; C10 work conservation
  rcases hn with (((((hn | hn) | hn) | hn) | hn) | hn) | hn
  · rw [List.mem_singleton.mp hn]; exact .inl rfl
  · exact one hn
  · exact one hn
  · exact one hn
  · split at hn
    · exact one hn
    · cases hn
  · rcases hl : x.c.limit with _ | _ | l
    · simp only [hl] at hn
      exact wc (.inr rfl) (fun hc => by
        simp only [Bool.and_eq_true, Option.isNone_iff_eq_none, List.isEmpty_iff, beq_iff_eq] at hc
        exact ⟨hc.1.1, hc.1.2, hc.2.1, .inl hl⟩) hn
    · simp only [hl] at hn
      exact wc (.inr rfl) (fun hc => by
        simp only [Bool.and_eq_true, Option.isNone_iff_eq_none, List.isEmpty_iff, beq_iff_eq] at hc
        exact ⟨hc.1.1, hc.1.2, hc.2.1, .inr (.inl hl)⟩) hn
    · simp [hl] at hn
  · rcases hlim : x.c.limit with _ | _ | l
    · simp only [hlim] at hn; cases hn
    · simp only [hlim] at hn
      exact wc (.inl (.inr (.inr ⟨rfl, _, rfl⟩))) (fun hc => by
        simp only [Bool.and_eq_true, Option.isNone_iff_eq_none, List.isEmpty_iff,
          Bool.not_eq_true'] at hc
        exact ⟨hc.1.1, hc.1.2, hc.2, .inr (.inl hlim)⟩) hn
    · simp only [hlim] at hn
      exact wc (.inl (.inr (.inl ⟨rfl, _, l, rfl⟩))) (fun hc => by
        simp only [Bool.and_eq_true, Option.isNone_iff_eq_none, List.isEmpty_iff, Bool.not_eq_true',
          decide_eq_true_eq] at hc
        exact ⟨hc.1.1.1, hc.1.1.2, hc.1.2, .inr (.inr ⟨l, hlim, hc.2⟩)⟩) hn

theorem predFut_retErr_ok (x : MonCtx) (m : PredSt) (f : Nat)
    (hi : m.realInflight = []) (hf : m.realFailed = [f]) (hl : m.realInvoked.getLast? = some f) :
    ∀ n ∈ (predFut x m (.retErr f)).2, n.ok = true := by
  simp only [predFut, List.mem_cons, List.not_mem_nil, or_false]
  rintro n (rfl | rfl)
  · exact List.isEmpty_iff.mpr hi
  · exact Bool.and_eq_true_iff.mpr ⟨beq_iff_eq.mpr hf, beq_iff_eq.mpr hl⟩

theorem sameMembers_self (a : List Nat) : sameMembers a a = true := by
  simp [sameMembers]

/-- the return of an outcome: C04 (nothing in flight), C09, C07 (errors), C08 (everything started
    is reported; `NonInterruptible` / `IgnoreInterruptions`: a signal changes nothing), C03 clean-all -/
theorem predFut_retOutcome_spec (P K G C : Prop) (x : MonCtx) (m : PredSt) (fnd : Bool)
    (proc notp errs : List Nat) (flow : String)
    (hi : m.realInflight = [])
    (hproc : P → proc = m.realInvoked)
    (hnp : notp = (List.range x.c.n).filter (fun v => decide (v ∉ proc)))
    (hst : fnd = (proc.length == x.c.n))
    (hflow : (flow == "na" || ((flow == "cont") == (fnd && errs.isEmpty))) = true)
    (herr : errs = m.realFailed)
    (hsub : ∀ f ∈ m.realInvoked, f ∈ proc)
    (hclean : K → m.intrAt = none → m.realFailed = [] → isPermOfRange m.realInvoked x.c.n = true)
    (hnoop : G ∨ C → (x.c.strat = .non ∨ x.c.strat = .ignore) → m.realFailed = [] →
      isPermOfRange m.realInvoked x.c.n = true) :
    ∀ n ∈ (predFut x m (.retOutcome fnd proc notp errs flow)).2, n.ok = true ∨ n.Open P K G C := by
  simp only [predFut, List.mem_append, List.mem_cons, List.not_mem_nil, or_false]
  rintro n ((hn | hn) | hn)
  · -- the value of a `prop` note is its Boolean
    rcases hn with rfl | rfl | rfl | rfl | rfl | rfl | rfl
    · exact .inl (List.isEmpty_iff.mpr hi)
    · by_cases hP : P
      · exact .inl (beq_iff_eq.mpr (hproc hP))
      · exact .inr (.inl ⟨⟨rfl, _, rfl⟩, hP⟩)
    · exact .inl (beq_iff_eq.mpr hnp)
    · exact .inl (beq_iff_eq.mpr hst)
    · exact .inl hflow
    · exact .inl (herr ▸ sameMembers_self errs)
    · exact .inl (List.all_eq_true.mpr fun f hf => decide_eq_true (hsub f hf))
  · refine mem_guarded (Q := fun n => n.ok = true ∨ n.Open P K G C) (fun hc => ?_) hn
    simp only [Bool.and_eq_true, Option.isNone_iff_eq_none, List.isEmpty_iff] at hc
    by_cases hK : K
    · exact .inl (hclean hK hc.1 hc.2)
    · exact .inr (.inr (.inl ⟨.inl (.inl ⟨rfl, _, rfl⟩), hK⟩))
  · have noop : (x.c.strat = .non ∨ x.c.strat = .ignore) →
        n ∈ (if m.realFailed.isEmpty = true then
          [Note.prop "C08" ((Ev.retOutcome fnd proc notp errs flow).text ++ " noop")
            (isPermOfRange m.realInvoked x.c.n)] else []) → n.ok = true ∨ n.Open P K G C := by
      intro hs hn
      refine mem_guarded (Q := fun n => n.ok = true ∨ n.Open P K G C) (fun hc => ?_) hn
      by_cases hB : G ∨ C
      · exact .inl (hnoop hB hs (List.isEmpty_iff.mp hc))
      · exact .inr (.inr (.inr ⟨rfl, fun g => hB (.inl g), fun c => hB (.inr c)⟩))
    split at hn
    · rename_i hs; exact noop (.inl hs) hn
    · rename_i hs; exact noop (.inr hs) hn
    · cases hn

end FG
