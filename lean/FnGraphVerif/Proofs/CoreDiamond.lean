/-
  Proofs/CoreDiamond.lean — local confluence of the core actions modulo `Sim`: joinability, the queuer's fold in
  closed form, and the two real diamonds (the queuer's actions against `schedPoll`; a `Pending` poll is
  absorbed by the next one): `local_conf`.  At the end: an internal run is a core run up to `Sim`, and a
  quiescent state is a normal form.
-/
import FnGraphVerif.Proofs.CoreNewman
namespace FG
variable {c : Cfg} {s s' : PState}

theorem crun_one {a : CA} (h : step? c s a.act = some s') : crun c s [a] = some s' :=
  crun_cons_iff.mpr ⟨s', h, rfl⟩

theorem Join.of_steps {a b : CA} {s1 s2 t1 t2 : PState} (h1 : step? c s1 b.act = some t1)
    (h2 : step? c s2 a.act = some t2) (hs : Sim t1 t2) : Join c s1 s2 :=
  ⟨[b], [a], t1, t2, crun_one h1, crun_one h2, hs⟩

/-- `Sim` from one record equation: `b` is `a` but for `invoked` and the six fields in which the two
    orders of a queuer and a scheduler step (or a completion) can differ at all; `h` is closed by `rfl` -/
theorem Sim.of_patch {a b : PState}
    (h : b = { a with counts := b.counts, readyQ := b.readyQ, doneQ := b.doneQ, doneTxOpen := b.doneTxOpen,
                      invoked := b.invoked, inflight := b.inflight, panic := b.panic })
    (hcounts : a.counts = b.counts) (hready : a.readyRxOpen = true → a.readyQ = b.readyQ)
    (hdoneQ : a.doneQ = b.doneQ) (hdoneTx : a.doneTxOpen = b.doneTxOpen) (hinfl : a.inflight = b.inflight)
    (hpanic : a.panic = b.panic) : Sim a b := by
  rw [h]
  unfold Sim norm
  rw [← hcounts, ← hdoneQ, ← hdoneTx, ← hinfl, ← hpanic]
  cases hrx : a.readyRxOpen
  · rfl
  · rw [← hready hrx]

/-- what the fold appends to the ready queue -/
def qrExt (c : Cfg) (s : PState) (x : Nat) : List Nat :=
  if (s.readyTxOpen && (s.qRemaining - 1 != 0)) && s.readyRxOpen then
    (children c.D x).filter (fun v => s.counts[v]?.getD 0 - 1 == 0)
  else []

theorem qrApply_readyQ_eq {x : Nat} (rest : List Nat) (hnd : (children c.D x).Nodup)
    (hroom : s.readyQ.length + (children c.D x).length ≤ c.cap) :
    (qrApply c s x rest).readyQ = s.readyQ ++ qrExt c s x := by
  show (relFold ((s.readyTxOpen && (s.qRemaining - 1 != 0)) && s.readyRxOpen) c.cap
    (s.counts, s.readyQ, s.panic || s.qRemaining == 0) (children c.D x)).2.1 = _
  rw [relFold_readyQ _ c.cap _ hnd (s.counts, s.readyQ, _) hroom]
  unfold qrExt
  cases (s.readyTxOpen && (s.qRemaining - 1 != 0)) && s.readyRxOpen
  · simp only [Bool.false_and, List.filter_false, Bool.false_eq_true, if_false]
  · simp only [Bool.true_and, if_true]

/-- the ready channel never fills: queued ids and the children of an unreleased id are distinct nodes -/
theorem qr_room (hc : GoodCfg c) (hinv : Inv0 c s) {x : Nat} {rest : List Nat} (hq : s.doneQ = x :: rest) :
    s.readyQ.length + (children c.D x).length ≤ c.cap := by
  have hxdq : x ∈ s.doneQ := by rw [hq]; simp
  have hxnr : x ∉ s.released := fun hx => (List.nodup_append.mp hinv.relNodup).2.2 x hx x hxdq rfl
  have hdisj : ∀ a ∈ s.readyQ, ∀ b ∈ children c.D x, a ≠ b := by
    intro a ha b hb hab
    subst hab
    have hxp : x ∈ parents c.D a := mem_parents.mpr (mem_children.mp hb)
    exact hxnr (hinv.ready a (Or.inl ha) x hxp)
  have hnd : (s.readyQ ++ children c.D x).Nodup :=
    List.nodup_append.mpr ⟨hinv.readyQ_nodup, (hc.simple x).1, hdisj⟩
  have hbd : ∀ y ∈ s.readyQ ++ children c.D x, y < c.n := by
    intro y hy
    rcases List.mem_append.mp hy with hy | hy
    · exact hinv.bound y (Or.inl hy)
    · exact ((mem_children.mp hy).lt hc.wf).2
  have := nodup_bounded_length hnd hbd
  simp only [List.length_append] at this
  have := c.n_le_cap
  omega

theorem spApply_im (m0 m : IM) (out : Out) : spApply c { s with im := m0 } m out = spApply c s m out := by
  cases out <;> rfl

theorem spApply_queuer {m : IM} {out : Out} {s2 : PState} (h : spApply c s m out = some s2) :
    s2.qDone = s.qDone ∧ s2.doneQ = s.doneQ ∧ s2.result = s.result ∧ (s.doneTxOpen = false → s2.doneTxOpen = false) := by
  rcases spApply_eq_some h with ⟨_, rfl⟩ | ⟨_, rfl⟩ | ⟨_, rfl⟩ | ⟨_, f, rest, _, rfl⟩ |
    ⟨_, f, rest, _, ⟨_, rfl⟩ | ⟨_, rfl⟩⟩
  · exact ⟨rfl, rfl, rfl, id⟩
  · exact ⟨rfl, rfl, rfl, id⟩
  · exact ⟨rfl, rfl, rfl, fun _ => rfl⟩
  · exact ⟨rfl, rfl, rfl, id⟩
  · exact ⟨rfl, rfl, rfl, id⟩
  · exact ⟨rfl, rfl, rfl, fun _ => rfl⟩

/-! ### a poll that answered `Pending` before the queuer moved is absorbed by the next poll -/

theorem absorb_join {b : CA} {s1 s2 : PState}
    (hfr : ∀ m, step? c { s with im := m } b.act = some { s1 with im := m })
    (him : s1.im = s.im) (hg : s.sDone = false ∧ s.streamEnded = false ∧ underLimit c s = true)
    (hg1 : s1.sDone = false ∧ s1.streamEnded = false ∧ underLimit c s1 = true)
    (hu : readyUnder s = .pending) (hp : (pollNext c.strat s.im .pending).2 = .pending)
    (h2 : step? c s .schedPoll = some s2) : Join c s1 s2 := by
  rw [step_schedPoll_eq hg.1 hg.2.1 hg.2.2, hu] at h2
  generalize hm : pollNext c.strat s.im .pending = r at h2 hp
  obtain ⟨m, out⟩ := r
  simp only at hp
  subst hp
  simp only [spApply, Option.some.injEq] at h2
  subst h2
  obtain ⟨t1, ht1⟩ := schedPoll_enabled hg1.1 hg1.2.1 hg1.2.2
  have hm1 : m = (pollNext c.strat s.im .pending).1 := by rw [hm]
  have hpend : (pollNext c.strat s.im .pending).2 = .pending := by rw [hm]
  have hstep : step? c { s1 with im := m } .schedPoll = some t1 := by
    rw [← ht1]
    rw [step_schedPoll_eq (s := { s1 with im := m }) hg1.1 hg1.2.1 hg1.2.2, step_schedPoll_eq hg1.1 hg1.2.1 hg1.2.2]
    have hu1 : readyUnder { s1 with im := m } = readyUnder s1 := rfl
    rw [hu1, spApply_im, him]
    show spApply c s1 (pollNext c.strat m (readyUnder s1)).1 (pollNext c.strat m (readyUnder s1)).2 = _
    rw [hm1, pollNext_absorb c.strat s.im (readyUnder s1) hpend]
  exact ⟨[.sp], [b, .sp], t1, t1, crun_one ht1, crun_cons_iff.mpr ⟨_, hfr m, crun_one hstep⟩, Sim.refl _⟩

/-- a step `b` of the queuer against a poll: a `Pending` answer is absorbed; any other answer is the same
    after `b`, and `hcomm` closes the diamond for that answer -/
theorem queuer_sp_join {b : CA} {s1 s2 : PState}
    (hfr : ∀ m, step? c { s with im := m } b.act = some { s1 with im := m }) (him : s1.im = s.im)
    (hg1 : s1.sDone = s.sDone ∧ s1.streamEnded = s.streamEnded ∧ underLimit c s1 = underLimit c s)
    (hru : readyUnder s ≠ .pending → readyUnder s1 = readyUnder s)
    (h2 : step? c s .schedPoll = some s2)
    (hcomm : ∀ m out, spApply c s m out = some s2 → step? c s1 .schedPoll = spApply c s1 m out →
      Join c s1 s2) : Join c s1 s2 := by
  obtain ⟨hsd, hse, hul, _⟩ := step_schedPoll_iff.mp h2
  have hg1' : s1.sDone = false ∧ s1.streamEnded = false ∧ underLimit c s1 = true :=
    ⟨hg1.1.trans hsd, hg1.2.1.trans hse, hg1.2.2.trans hul⟩
  by_cases hpend : readyUnder s = .pending ∧ (pollNext c.strat s.im .pending).2 = .pending
  · exact absorb_join hfr him ⟨hsd, hse, hul⟩ hg1' hpend.1 hpend.2 h2
  · have hP : pollNext c.strat s.im (readyUnder s1) = pollNext c.strat s.im (readyUnder s) := by
      by_cases hu : readyUnder s = .pending
      · rw [hu, pollNext_indep _ _ _ (fun h => hpend ⟨hu, h⟩)]
      · rw [hru hu]
    rw [step_schedPoll_eq hsd hse hul] at h2
    refine hcomm _ _ h2 ?_
    rw [step_schedPoll_eq hg1'.1 hg1'.2.1 hg1'.2.2, him, hP]

theorem readyUnder_qe (h : readyUnder s ≠ .pending) :
    readyUnder { s with qDone := true, readyTxOpen := false } = readyUnder s := by
  unfold readyUnder at h ⊢
  simp only at h ⊢
  cases h1 : s.readyQ.isEmpty <;> cases h2 : s.readyTxOpen <;> simp_all

theorem spApply_qe_frame (m : IM) (out : Out) :
    spApply c { s with qDone := true, readyTxOpen := false } m out =
      (spApply c s m out).map (fun t => { t with qDone := true, readyTxOpen := false }) := by
  cases out with
  | pending => rfl
  | endd => rfl
  | intNone => rfl
  | noInt => simp only [spApply]; split <;> rfl
  | intSome =>
    simp only [spApply]
    split
    · rfl
    · split <;> rfl

theorem lc_qe_sp {s1 s2 : PState} (h1 : step? c s .queuerEnd = some s1) (h2 : step? c s .schedPoll = some s2) :
    Join c s1 s2 := by
  obtain ⟨hqd, hdt, hdq, rfl⟩ := step_queuerEnd_iff.mp h1
  refine queuer_sp_join (s := s) (b := .qe) (fun m => ?_) rfl ⟨rfl, rfl, rfl⟩ readyUnder_qe h2 ?_
  · simp only [CA.act, step_qe, hqd, hdt, hdq]
    rfl
  · intro m out h2 hsp1
    obtain ⟨e1, e2, _, e4⟩ := spApply_queuer h2
    have hs2 : step? c s2 .queuerEnd = some { s2 with qDone := true, readyTxOpen := false } := by
      simp only [step_qe, e1, e2, e4 hdt, hqd, hdq]
      rfl
    refine Join.of_steps (a := .qe) (b := .sp) (hsp1.trans ?_) hs2 (Sim.refl _)
    rw [spApply_qe_frame, h2]
    rfl

theorem readyUnder_qr {x : Nat} {rest : List Nat} (h : readyUnder s ≠ .pending) :
    readyUnder (qrApply c s x rest) = readyUnder s := by
  unfold readyUnder at h ⊢
  cases hq : s.readyQ with
  | nil =>
    rw [hq] at h
    simp only [List.isEmpty_nil, Bool.not_true, Bool.false_eq_true, if_false] at h ⊢
    have htx : s.readyTxOpen = false := by
      cases h2 : s.readyTxOpen with
      | false => rfl
      | true => rw [h2] at h; simp at h
    have e1 : (qrApply c s x rest).readyTxOpen = false := by
      show (s.readyTxOpen && _) = false
      rw [htx]; rfl
    have e2 : (qrApply c s x rest).readyQ = [] := by
      show (relFold ((s.readyTxOpen && _) && _) c.cap (s.counts, s.readyQ, _) (children c.D x)).2.1 = []
      rw [htx, Bool.false_and, Bool.false_and, relFold_ready_closed, hq]
    simp [e1, e2, htx]
  | cons f r =>
    obtain ⟨t, ht, _⟩ := relFold_ready_sub ((s.readyTxOpen && (s.qRemaining - 1 != 0)) && s.readyRxOpen) c.cap
      (children c.D x) (s.counts, s.readyQ, s.panic || s.qRemaining == 0)
    have e2 : (qrApply c s x rest).readyQ = f :: (r ++ t) := by
      show (relFold _ c.cap (s.counts, s.readyQ, _) (children c.D x)).2.1 = _
      rw [ht, hq]; rfl
    simp [e2]

/-- handing out the head of the ready queue (and naming the item `ca` that closes the done channel)
    commutes with the queuer's fold -/
theorem qr_handOut_commute {x f : Nat} {rest r : List Nat} {m : IM} (hnd : (children c.D x).Nodup)
    (hroom : s.readyQ.length + (children c.D x).length ≤ c.cap) (hqr : s.readyQ = f :: r) (ca : Option Nat)
    (hp1 : ({ handOut c { qrApply c s x rest with im := m } f (r ++ qrExt c s x) with closeAfter := ca } : PState).panic = false)
    (hp2 : (qrApply c { handOut c { s with im := m } f r with closeAfter := ca } x rest).panic = false) :
    Sim { handOut c { qrApply c s x rest with im := m } f (r ++ qrExt c s x) with closeAfter := ca }
      (qrApply c { handOut c { s with im := m } f r with closeAfter := ca } x rest) := by
  have hroom2 : ({ handOut c { s with im := m } f r with closeAfter := ca } : PState).readyQ.length
      + (children c.D x).length ≤ c.cap := by
    rw [hqr] at hroom
    simp only [handOut, List.length_cons] at hroom ⊢
    omega
  have e2 : (qrApply c { handOut c { s with im := m } f r with closeAfter := ca } x rest).readyQ
      = r ++ qrExt c s x := by
    rw [qrApply_readyQ_eq rest hnd hroom2]; rfl
  exact Sim.of_patch rfl (relFold_fst_indep _ _ _ _ _ _ _ _ _ _) (fun _ => by rw [e2]; rfl) rfl rfl rfl
    (by rw [hp1, hp2])

/-- `queuerRecv` and a `schedPoll` with the same answer of the interruptible stream commute, up to the
    ready queue when the poll ends the stream.  `panic` is the one field the closed form of the fold does
    not give: `hp1`, `hp2` come from the caller, who has both orders reachable -/
theorem qr_sp_commute (hc : GoodCfg c) (hinv : Inv0 c s) {x : Nat} {rest : List Nat}
    (hq : s.doneQ = x :: rest) {m : IM} {out : Out} {s2 : PState} (h2 : spApply c s m out = some s2)
    (hp1 : ∀ t1, spApply c (qrApply c s x rest) m out = some t1 → t1.panic = false)
    (hp2 : (qrApply c s2 x rest).panic = false) :
    ∃ t1, spApply c (qrApply c s x rest) m out = some t1 ∧ Sim t1 (qrApply c s2 x rest) := by
  have hroom := qr_room hc hinv hq
  have hnd : (children c.D x).Nodup := (hc.simple x).1
  cases out with
  | pending | intNone =>
    simp only [spApply, Option.some.injEq] at h2
    subst h2
    exact ⟨_, rfl, Sim.refl _⟩
  | endd =>
    simp only [spApply, Option.some.injEq] at h2
    subst h2
    refine ⟨_, rfl, ?_⟩
    have hp1' := hp1 _ rfl
    exact Sim.of_patch rfl (relFold_fst_indep _ _ _ _ _ _ _ _ _ _) (fun h => absurd h (by simp)) rfl rfl rfl
      (by rw [hp1', hp2])
  | noInt =>
    simp only [spApply] at h2
    split at h2
    · exact absurd h2 (by simp)
    · rename_i f r hqr
      simp only [Option.some.injEq] at h2
      subst h2
      have e1 : (qrApply c s x rest).readyQ = f :: (r ++ qrExt c s x) := by
        rw [qrApply_readyQ_eq rest hnd hroom, hqr]; rfl
      have hsp : spApply c (qrApply c s x rest) m .noInt =
          some (handOut c { qrApply c s x rest with im := m } f (r ++ qrExt c s x)) := by
        simp only [spApply, e1]
      exact ⟨_, hsp, qr_handOut_commute (m := m) (rest := rest) hnd hroom hqr s.closeAfter (hp1 _ hsp) hp2⟩
  | intSome =>
    simp only [spApply] at h2
    split at h2
    · exact absurd h2 (by simp)
    · rename_i f r hqr
      have e1 : (qrApply c s x rest).readyQ = f :: (r ++ qrExt c s x) := by
        rw [qrApply_readyQ_eq rest hnd hroom, hqr]; rfl
      split at h2
      · rename_i hincl
        simp only [Option.some.injEq] at h2
        subst h2
        have hsp : spApply c (qrApply c s x rest) m .intSome =
            some { handOut c { qrApply c s x rest with im := m } f (r ++ qrExt c s x) with closeAfter := some f } := by
          simp only [spApply, e1, hincl, if_true]
        exact ⟨_, hsp, qr_handOut_commute (m := m) (rest := rest) hnd hroom hqr (some f) (hp1 _ hsp) hp2⟩
      · rename_i hincl
        simp only [Option.some.injEq] at h2
        subst h2
        have hroom2 : ({ s with im := m, readyQ := r, dropped := some f, doneTxOpen := false } : PState).readyQ.length
            + (children c.D x).length ≤ c.cap := by
          rw [hqr] at hroom
          simp only [List.length_cons] at hroom ⊢
          omega
        have e2 : (qrApply c { s with im := m, readyQ := r, dropped := some f, doneTxOpen := false } x rest).readyQ
            = r ++ qrExt c s x := by
          rw [qrApply_readyQ_eq rest hnd hroom2]; rfl
        have hsp : spApply c (qrApply c s x rest) m .intSome =
            some { qrApply c s x rest with im := m, readyQ := r ++ qrExt c s x, dropped := some f, doneTxOpen := false } := by
          simp only [spApply, e1, hincl, Bool.false_eq_true, if_false]
        refine ⟨_, hsp, ?_⟩
        have hp1' := hp1 _ hsp
        exact Sim.of_patch rfl (relFold_fst_indep _ _ _ _ _ _ _ _ _ _) (fun _ => by rw [e2]) rfl rfl rfl
          (by rw [hp1', hp2])

theorem lc_qr_sp (hc : GoodCfg c) (hr : Reachable c s) {s1 s2 : PState}
    (h1 : step? c s .queuerRecv = some s1) (h2 : step? c s .schedPoll = some s2) : Join c s1 s2 := by
  have hr1 : Reachable c s1 := Reachable.step _ hr h1
  have hr2 : Reachable c s2 := Reachable.step _ hr h2
  obtain ⟨hqd, hres, x, rest, hq, hs1⟩ := step_queuerRecv_iff.mp h1
  have hs1' : s1 = qrApply c s x rest := hs1
  subst hs1'
  refine queuer_sp_join (s := s) (b := .qr) (fun m => step_queuerRecv_iff.mpr ⟨hqd, hres, x, rest, hq, rfl⟩) rfl ⟨rfl, rfl, rfl⟩
    readyUnder_qr h2 ?_
  intro m out h2 hsp1
  obtain ⟨e1, e2, e3, _⟩ := spApply_queuer h2
  have hs2 : step? c s2 .queuerRecv = some (qrApply c s2 x rest) :=
    step_queuerRecv_iff.mpr ⟨by rw [e1, hqd], by rw [e3, hres], x, rest, by rw [e2, hq], rfl⟩
  -- neither order panics: both are reachable
  have hp1 : ∀ t1, spApply c (qrApply c s x rest) m out = some t1 → t1.panic = false := by
    intro t1 ht1
    rw [← hsp1] at ht1
    exact (Reachable.step _ hr1 ht1).noPanic hc
  have hp2 : (qrApply c s2 x rest).panic = false :=
    (Reachable.step _ hr2 hs2).noPanic hc
  obtain ⟨t1, ht1, hsim⟩ := qr_sp_commute hc (inv0_reachable hc hr) hq h2 hp1 hp2
  exact Join.of_steps (a := .qr) (b := .sp) (hsp1.trans ht1) hs2 hsim

theorem lc_qr_se {s1 s2 : PState}
    (h1 : step? c s .queuerRecv = some s1) (h2 : step? c s .schedEnd = some s2) : Join c s1 s2 := by
  obtain ⟨hqd, hres, x, rest, hq, hs1⟩ := step_queuerRecv_iff.mp h1
  have hs1' : s1 = qrApply c s x rest := hs1
  subst hs1'
  obtain ⟨hse, hinf, hsd, rfl⟩ := step_schedEnd_iff.mp h2
  have ha : step? c (qrApply c s x rest) .schedEnd =
      some { qrApply c s x rest with sDone := true, doneTxOpen := s.doneTxOpen && !c.sequential } :=
    step_schedEnd_iff.mpr ⟨hse, hinf, hsd, rfl⟩
  have hb : step? c { s with sDone := true, doneTxOpen := s.doneTxOpen && !c.sequential } .queuerRecv =
      some { qrApply c s x rest with sDone := true, doneTxOpen := s.doneTxOpen && !c.sequential } :=
    step_queuerRecv_iff.mpr ⟨hqd, hres, x, rest, hq, rfl⟩
  exact Join.of_steps (a := .qr) (b := .se) ha hb (Sim.refl _)

theorem lc_qe_se {s1 s2 : PState}
    (h1 : step? c s .queuerEnd = some s1) (h2 : step? c s .schedEnd = some s2) : Join c s1 s2 := by
  obtain ⟨hqd, hdt, hdq, rfl⟩ := step_queuerEnd_iff.mp h1
  obtain ⟨hse, hinf, hsd, rfl⟩ := step_schedEnd_iff.mp h2
  have ha : step? c { s with qDone := true, readyTxOpen := false } .schedEnd =
      some { s with qDone := true, readyTxOpen := false, sDone := true, doneTxOpen := s.doneTxOpen && !c.sequential } :=
    step_schedEnd_iff.mpr ⟨hse, hinf, hsd, rfl⟩
  have hb : step? c { s with sDone := true, doneTxOpen := s.doneTxOpen && !c.sequential } .queuerEnd =
      some { s with qDone := true, readyTxOpen := false, sDone := true, doneTxOpen := s.doneTxOpen && !c.sequential } :=
    step_queuerEnd_iff.mpr ⟨hqd, by rw [hdt]; rfl, hdq, rfl⟩
  exact Join.of_steps (a := .qe) (b := .se) ha hb (Sim.refl _)

theorem core_eq_rt_of_done (hsd : s.sDone = true) (hqd : s.qDone = true) {a : CA}
    (h : step? c s a.act = some s') : a = .rt := by
  cases a
  · have := (step_queuerRecv_iff.mp h).1; rw [hqd] at this; cases this
  · have := (step_queuerEnd_iff.mp h).1; rw [hqd] at this; cases this
  · have := (step_schedPoll_iff.mp h).1; rw [hsd] at this; cases this
  · have := (step_schedEnd_iff.mp h).2.2.1; rw [hsd] at this; cases this
  · rfl

/-- **local confluence** of the core actions: the queuer's two actions exclude each other (`doneQ`), so
    do the scheduler's (`streamEnded`), `ret` excludes all; queuer against scheduler are the diamonds -/
theorem local_conf (hc : GoodCfg c) : LocalConf c := by
  intro s hr a b s1 s2 h1 h2
  by_cases hab : a = b
  · subst hab; rw [h1] at h2; cases h2; exact Join.refl _
  have hrt : ∀ {a : CA} {s1 s2 : PState}, step? c s a.act = some s1 → step? c s CA.rt.act = some s2 →
      a = .rt := fun h1 h2 => core_eq_rt_of_done (step_ret_iff.mp h2).1 (step_ret_iff.mp h2).2.1 h1
  have hq : ∀ {s1 s2 : PState}, step? c s CA.qr.act = some s1 → step? c s CA.qe.act = some s2 → False := by
    intro s1 s2 h1 h2
    obtain ⟨_, _, x, rest, hq, _⟩ := step_queuerRecv_iff.mp h1
    rw [(step_queuerEnd_iff.mp h2).2.2.1] at hq; cases hq
  have hs : ∀ {s1 s2 : PState}, step? c s CA.sp.act = some s1 → step? c s CA.se.act = some s2 → False := by
    intro s1 s2 h1 h2
    have := (step_schedPoll_iff.mp h1).2.1
    rw [(step_schedEnd_iff.mp h2).1] at this; cases this
  cases a <;> cases b
  · exact absurd rfl hab
  · exact (hq h1 h2).elim
  · exact lc_qr_sp hc hr h1 h2
  · exact lc_qr_se h1 h2
  · cases hrt h1 h2
  · exact (hq h2 h1).elim
  · exact absurd rfl hab
  · exact lc_qe_sp h1 h2
  · exact lc_qe_se h1 h2
  · cases hrt h1 h2
  · exact (lc_qr_sp hc hr h2 h1).symm
  · exact (lc_qe_sp h2 h1).symm
  · exact absurd rfl hab
  · exact (hs h1 h2).elim
  · cases hrt h1 h2
  · exact (lc_qr_se h2 h1).symm
  · exact (lc_qe_se h2 h1).symm
  · exact (hs h2 h1).elim
  · exact absurd rfl hab
  · cases hrt h1 h2
  · cases hrt h2 h1
  · cases hrt h2 h1
  · cases hrt h2 h1
  · cases hrt h2 h1
  · exact absurd rfl hab

theorem internal_to_core (hc : GoodCfg c) {as : List Action} : ∀ {s q : PState}, Reachable c s →
    (∀ a ∈ as, a.internal) → run c s as = some q → ∃ cs q', crun c s cs = some q' ∧ Sim q' q := by
  induction as with
  | nil => intro s q _ _ h; cases h; exact ⟨[], s, rfl, Sim.refl _⟩
  | cons a as ih =>
    intro s q hr hint h
    obtain ⟨s1, h1, h⟩ := run_cons_iff.mp h
    have hr1 := Reachable.step _ hr h1
    obtain ⟨cs, q5, hcs, hsim⟩ := ih hr1 (fun b hb => hint b (List.mem_cons_of_mem _ hb)) h
    rcases (hint a List.mem_cons_self).cases with ⟨b, rfl⟩ | ⟨f, rfl⟩
    · exact ⟨b :: cs, q5, crun_cons_iff.mpr ⟨s1, h1, hcs⟩, hsim⟩
    · -- an `invoke` is dropped: the core run goes through from the state before it
      obtain ⟨_, _, rfl⟩ := step_invoke_iff.mp h1
      obtain ⟨q5', hq5', hs'⟩ := (coreEquiv_sim hc).lift hr1 hr (show Sim { s with invoked := s.invoked ++ [f] } s from rfl) hcs
      exact ⟨cs, q5', hq5', hs'.symm.trans hsim⟩

theorem quiescent_core_step_eq (hq : Quiescent c s) (hres : s.result = none) (a : CA)
    (h : step? c s a.act = some s') : s' = s := by
  obtain ⟨_, ha, hb, hpoll, hd, he⟩ := nextInternal_none (quiescent_iff.mp hq) hres
  cases a
  · obtain ⟨h1, _, x, rest, h2, _⟩ := step_queuerRecv_iff.mp h
    rcases ha with h' | h'
    · rw [h1] at h'; exact absurd h' (by simp)
    · rw [h2] at h'; exact absurd h' (by simp)
  · obtain ⟨h1, h2, _⟩ := step_queuerEnd_iff.mp h
    rcases hb with h' | h'
    · rw [h1] at h'; exact absurd h' (by simp)
    · rw [h2] at h'; exact absurd h' (by simp)
  · obtain ⟨h1, h2, h3, _⟩ := step_schedPoll_iff.mp h
    have h' : step? c s .schedPoll = some s' := h
    rcases hpoll with h4 | h4 | h4 | h4
    · rw [h1] at h4; exact absurd h4 (by simp)
    · rw [h2] at h4; exact absurd h4 (by simp)
    · rw [h3] at h4; exact absurd h4 (by simp)
    · rw [h4] at h'; simp only [Option.some.injEq] at h'; exact h'.symm
  · obtain ⟨h1, h2, h3, _⟩ := step_schedEnd_iff.mp h
    exact absurd ⟨h1, h2, h3⟩ hd
  · obtain ⟨h1, h2, _⟩ := step_ret_iff.mp h
    exact absurd ⟨h1, h2⟩ he

theorem quiescent_nf (hc : GoodCfg c) (hr : Reachable c s) (hq : Quiescent c s) : NF c s := by
  have hinv := inv0_reachable hc hr
  intro a s' h
  cases hres : s.result with
  | some r =>
    obtain ⟨hsd, hqd, _⟩ := hinv.ret0 r hres
    cases core_eq_rt_of_done hsd hqd h
    have := (step_ret_iff.mp h).2.2.1
    rw [hres] at this; cases this
  | none => rw [quiescent_core_step_eq hq hres a h]; exact Sim.refl _

theorem quiescent_core (hc : GoodCfg c) (hr : Reachable c s) {as : List Action} {q : PState}
    (hint : ∀ a ∈ as, a.internal) (hrun : run c s as = some q) (hq : Quiescent c q) :
    ∃ cs q', crun c s cs = some q' ∧ NF c q' ∧ Sim q' q := by
  have hrq := Reachable.of_run hr hrun
  obtain ⟨cs, q5, hcs, hs5⟩ := internal_to_core hc hr hint hrun
  exact ⟨cs, q5, hcs, (coreEquiv_sim hc).nf (quiescent_nf hc hrq hq) hs5.symm hrq (hr.of_run hcs), hs5⟩

theorem settle_core (hc : GoodCfg c) (hr : Reachable c s) :
    ∃ cs t', crun c s cs = some t' ∧ NF c t' ∧ Sim t' (settle c s) := by
  obtain ⟨bs, hbs, hrun⟩ := settleN_run (c := c) (settleFuel c) s
  exact quiescent_core hc hr hbs hrun (settle_quiescent_of_inv hc (inv0_reachable hc hr))

/-- whatever order the internal actions are taken in, the quiescent state reached is `settle c s` -/
theorem quiescent_sim_settle (hc : GoodCfg c) (hr : Reachable c s) {as : List Action} {q : PState}
    (hint : ∀ a ∈ as, a.internal) (hrun : run c s as = some q) (hq : Quiescent c q) : Sim q (settle c s) := by
  obtain ⟨cs, q5, hcs, hnq, hs5⟩ := quiescent_core hc hr hint hrun hq
  obtain ⟨ds, t5, hds, hnt, ht5⟩ := settle_core hc hr
  exact (hs5.symm.trans (core_confluence hc (local_conf hc) hr hcs hnq hds hnt)).trans ht5

end FG
