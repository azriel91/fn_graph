/-
  Proofs/BuildParts.lean — the parts of `build` after `augment`, on a good graph: the edge-by-edge
  copies (`copyStructs`) are never refused and reproduce the graph and its flip; `predCounts`
  computes the degrees; `isCyclic` is false; and what `eqGraph` (`==`) compares.
-/
import FnGraphVerif.Proofs.ListFacts
import FnGraphVerif.Proofs.EdgePairs
import FnGraphVerif.Model.GraphInfo
namespace FG

/-- in an acyclic graph no edge's target reaches its source, not even in a sub-graph -/
theorem hasPath_sub_false {g : Dag} (hac : Acyclic g) {pre : List Edge} (hsub : ∀ x ∈ pre, x ∈ g.edges)
    {e : Edge} (he : e ∈ g.edges) (m : Nat) : hasPath ⟨m, pre⟩ e.tgt e.src = false := by
  cases hp : hasPath ⟨m, pre⟩ e.tgt e.src with
  | false => rfl
  | true =>
    exfalso
    have hr : Reach g e.tgt e.src :=
      (hasPath_sound hp).congr fun _ _ => IsEdge.mono_edges (g := ⟨m, pre⟩) hsub
    exact hac e.src (ReachP.head ⟨e, he, rfl, rfl⟩ hr)

theorem addEdgeChecked_sub {g : Dag} (hwf : WF g) (hac : Acyclic g) {pre : List Edge}
    (hsub : ∀ x ∈ pre, x ∈ g.edges) {e : Edge} (he : e ∈ g.edges) :
    addEdgeChecked ⟨g.n, pre⟩ e.src e.tgt e.kind = some ⟨g.n, pre ++ [e]⟩ := by
  unfold addEdgeChecked
  have hb := hwf e he
  have h1 : ¬ (g.n ≤ e.src ∨ g.n ≤ e.tgt) := by omega
  simp only [h1, if_false, hasPath_sub_false hac hsub he]
  rfl

theorem copyStructs_good {g : Dag} (hg : GoodG g) :
    copyStructs g = some (⟨g.n, g.edges⟩, g.flip) := by
  unfold copyStructs
  rw [flip_eq]
  refine foldl_inv (fun pre (acc : Option (Dag × Dag)) => acc = some (⟨g.n, pre⟩, ⟨g.n, pre.map flipE⟩))
    g.edges _ rfl fun p e q acc hsplit hacc => ?_
  have hsub : ∀ x ∈ p, x ∈ g.edges := fun x hx => hsplit ▸ List.mem_append_left _ hx
  have he : e ∈ g.edges := hsplit ▸ List.mem_append_right _ List.mem_cons_self
  have h1 := addEdgeChecked_sub hg.wf hg.acyclic hsub he
  have h2 : addEdgeChecked ⟨g.n, p.map flipE⟩ e.tgt e.src e.kind = some ⟨g.n, p.map flipE ++ [flipE e]⟩ :=
    addEdgeChecked_sub hg.wf.flip hg.acyclic.flip (pre := p.map flipE)
      (fun x hx => by obtain ⟨y, hy, rfl⟩ := List.mem_map.mp hx; exact List.mem_map.mpr ⟨y, hsub y hy, rfl⟩)
      (e := flipE e) (List.mem_map.mpr ⟨e, he, rfl⟩)
  subst hacc
  simp only [h1, h2, List.map_append, List.map_cons, List.map_nil]

theorem bump_length (l : List Nat) (i : Nat) : (bump l i).length = l.length := by
  simp [bump]

theorem foldl_bump_length (xs : List Nat) (l : List Nat) : (xs.foldl bump l).length = l.length := by
  induction xs generalizing l with
  | nil => rfl
  | cons x xs ih => rw [List.foldl_cons, ih, bump_length]

theorem bump_get (l : List Nat) (i v : Nat) :
    (bump l i)[v]?.getD 0 = l[v]?.getD 0 + (if v < l.length ∧ i = v then 1 else 0) := by
  unfold bump
  rw [List.getElem?_set]
  by_cases hiv : i = v
  · subst hiv
    by_cases hl : i < l.length
    · simp [hl]
    · simp [hl]
  · simp [hiv]

theorem foldl_bump_get (xs : List Nat) (l : List Nat) (v : Nat) :
    (xs.foldl bump l)[v]?.getD 0 = l[v]?.getD 0 + (if v < l.length then xs.count v else 0) := by
  induction xs generalizing l with
  | nil => simp
  | cons x xs ih =>
    rw [List.foldl_cons, ih, bump_get, bump_length, List.count_cons]
    by_cases hl : v < l.length
    · by_cases hx : x = v
      · simp [hl, hx]; omega
      · simp [hl, hx]
    · simp [hl]

theorem predFold_eq (g : Dag) (us : List Nat) (acc : List Nat × List Nat) :
    us.foldl (fun (acc : List Nat × List Nat) u =>
        ((children g u).foldl bump acc.1, (parents g u).foldl bump acc.2)) acc
      = ((us.flatMap (children g)).foldl bump acc.1, (us.flatMap (parents g)).foldl bump acc.2) := by
  induction us generalizing acc with
  | nil => rfl
  | cons u us ih =>
    rw [List.foldl_cons, ih, List.flatMap_cons, List.flatMap_cons, List.foldl_append, List.foldl_append]

theorem children_count (g : Dag) (u v : Nat) :
    (children g u).count v = g.edges.countP (fun e => e.src == u && e.tgt == v) := by
  unfold children
  rw [List.count_eq_countP, List.countP_map, List.countP_filter, List.countP_reverse]
  apply List.countP_congr
  intro e _
  simp [Bool.and_comm]

theorem parents_count (g : Dag) (u v : Nat) :
    (parents g u).count v = g.edges.countP (fun e => e.tgt == u && e.src == v) := by
  rw [← children_flip, children_count]
  unfold Dag.flip
  rw [List.countP_map]
  rfl

theorem parents_length (g : Dag) (v : Nat) :
    (parents g v).length = g.edges.countP (fun e => e.tgt == v) := by
  unfold parents
  rw [List.length_map, ← List.countP_eq_length_filter, List.countP_reverse]

theorem children_length (g : Dag) (v : Nat) :
    (children g v).length = g.edges.countP (fun e => e.src == v) := by
  unfold children
  rw [List.length_map, ← List.countP_eq_length_filter, List.countP_reverse]

/-- summing the per-source counts over all sources gives the total count -/
theorem sum_range_countP_and (n : Nat) (f k : Edge → Nat) (v : Nat) (es : List Edge) (hb : ∀ e ∈ es, f e < n) :
    ((List.range n).map (fun u => es.countP (fun e => f e == u && k e == v))).sum
      = es.countP (fun e => k e == v) := by
  induction es with
  | nil => simp
  | cons e es ih =>
    have ih' := ih (fun x hx => hb x (List.mem_cons_of_mem _ hx))
    have hfe := hb e List.mem_cons_self
    simp only [List.countP_cons]
    rw [sum_map_add, ih']
    congr 1
    by_cases hk : k e = v
    · simp only [hk, beq_self_eq_true, Bool.and_true, beq_iff_eq, if_true]
      rw [sum_map_ite_eq_count, List.count_range]; simp [hfe]
    · simp [hk]

/-- the count of `v` is the number of its occurrences in all child (parent) lists, which is the
    number of edges into (out of) `v` -/
theorem predCounts_spec {g : Dag} (hwf : WF g) :
    (∀ v, (predCounts g).1[v]?.getD 0 = (parents g v).length) ∧ (predCounts g).1.length = g.n ∧
    (∀ v, (predCounts g).2[v]?.getD 0 = (children g v).length) ∧ (predCounts g).2.length = g.n := by
  unfold predCounts
  rw [predFold_eq]
  refine ⟨fun v => ?_, by rw [foldl_bump_length, List.length_replicate], fun v => ?_,
    by rw [foldl_bump_length, List.length_replicate]⟩
  · rw [foldl_bump_get, getD_replicate_zero, List.length_replicate, List.count_flatMap, parents_length, Nat.zero_add]
    split
    · simp only [Function.comp_def, children_count]
      exact sum_range_countP_and g.n (·.src) (·.tgt) v g.edges (fun e he => (hwf e he).1)
    · exact (List.countP_eq_zero.mpr fun e he => by have := (hwf e he).2; simp; omega).symm
  · rw [foldl_bump_get, getD_replicate_zero, List.length_replicate, List.count_flatMap, children_length, Nat.zero_add]
    split
    · simp only [Function.comp_def, parents_count]
      exact sum_range_countP_and g.n (·.tgt) (·.src) v g.edges (fun e he => (hwf e he).2)
    · exact (List.countP_eq_zero.mpr fun e he => by have := (hwf e he).1; simp; omega).symm

theorem isCyclic_false {g : Dag} (hac : Acyclic g) : isCyclic g = false := by
  unfold isCyclic
  rw [List.any_eq_false]
  intro e he
  have := hasPath_sub_false hac (pre := g.edges) (fun x hx => hx) he g.n
  simp [this]

theorem eqGraph_true_iff (x y : FnGraph) :
    eqGraph x y = true ↔ x.graph.n = y.graph.n ∧ x.graph.edges = y.graph.edges ∧
      (x.decls.zip y.decls).all (fun p => p.1 == p.2) = true := by
  unfold eqGraph
  simp only [Bool.and_eq_true, beq_iff_eq]
  constructor
  · rintro ⟨⟨⟨hn, hl⟩, he⟩, hd⟩
    refine ⟨hn, ?_, hd⟩
    apply eq_of_zip_all _ _ _ _ hl he
    intro e1 e2 h
    simp only [Bool.and_eq_true, beq_iff_eq] at h
    obtain ⟨s1, t1, k1⟩ := e1
    obtain ⟨s2, t2, k2⟩ := e2
    simp only at h
    rw [h.1.1, h.1.2, h.2]
  · rintro ⟨hn, he, hd⟩
    refine ⟨⟨⟨hn, by rw [he]⟩, ?_⟩, hd⟩
    rw [he]
    apply zip_all_eq_self
    intro e; simp

end FG
