/-
  Proofs/ExampleStates.lean — states of the diamond `exC_G` (`Proofs/ExampleCfgs.lean`) reached by
  settling after each completion, written out as literals; used by the non-vacuity examples of
  `Theorems/C04.lean` and later files.
-/
import FnGraphVerif.Proofs.SettleStep
import FnGraphVerif.Proofs.ExampleCfgs
namespace FG

/-- complete `f` (successfully or not), then run the internal actions to quiescence -/
def exStep_G (lim : Option Nat) (s : PState) (f : Nat) (ok : Bool) : PState :=
  settle (exC_G lim) ((step? (exC_G lim) s (.finish f ok)).getD s)

theorem exStep_reachable_G {lim : Option Nat} {s : PState} (hr : Reachable (exC_G lim) s) (f : Nat) (ok : Bool) :
    Reachable (exC_G lim) (exStep_G lim s f ok) := by
  unfold exStep_G
  apply settleN_reachable
  cases h : step? (exC_G lim) s (.finish f ok) with
  | none => exact hr
  | some s1 => exact Reachable.step _ hr h

/-- limit 2: `0` runs alone, then `1` and `2` together, then `3` -/
def exS0_G : PState := settle (exC_G (some 2)) (init (exC_G (some 2)))
def exS1_G : PState := exStep_G (some 2) exS0_G 0 true
def exS2_G : PState := exStep_G (some 2) exS1_G 2 true
def exS3_G : PState := exStep_G (some 2) exS2_G 1 true
def exS4_G : PState := exStep_G (some 2) exS3_G 3 true

theorem exS0_reach_G : Reachable (exC_G (some 2)) exS0_G := settleN_reachable _ .init
theorem exS1_reach_G : Reachable (exC_G (some 2)) exS1_G := exStep_reachable_G exS0_reach_G _ _
theorem exS2_reach_G : Reachable (exC_G (some 2)) exS2_G := exStep_reachable_G exS1_reach_G _ _
theorem exS3_reach_G : Reachable (exC_G (some 2)) exS3_G := exStep_reachable_G exS2_reach_G _ _
theorem exS4_reach_G : Reachable (exC_G (some 2)) exS4_G := exStep_reachable_G exS3_reach_G _ _

/- The example states written out.  Each is evaluated once, from the literal before it: evaluating
   `exS4_G` in one go re-evaluates the nested `exS3_G` … at every use of the state argument, which is
   slow to check. -/
theorem exS0_eq_G : exS0_G =
    { counts := [0, 1, 1, 2], qRemaining := 4, sRemaining := 4, handedOut := [0],
      invoked := [0], inflight := [0], im := { hp := true } } := by decide
theorem exS1_eq_G : exS1_G =
    { counts := [0, 0, 0, 2], released := [0], qRemaining := 3, sRemaining := 3,
      handedOut := [0, 2, 1], invoked := [0, 2, 1], inflight := [2, 1], endedOk := [0] } := by
  rw [exS1_G, exS0_eq_G]; decide
theorem exS2_eq_G : exS2_G =
    { counts := [0, 0, 0, 1], released := [0, 2], qRemaining := 2, sRemaining := 2,
      handedOut := [0, 2, 1], invoked := [0, 2, 1], inflight := [1], endedOk := [0, 2], im := { hp := true } } := by
  rw [exS2_G, exS1_eq_G]; decide
theorem exS3_eq_G : exS3_G =
    { counts := [0, 0, 0, 0], released := [0, 2, 1], qRemaining := 1, sRemaining := 1,
      handedOut := [0, 2, 1, 3], invoked := [0, 2, 1, 3], inflight := [3], endedOk := [0, 2, 1],
      im := { hp := true } } := by
  rw [exS3_G, exS2_eq_G]; decide
theorem exS4_eq_G : exS4_G =
    { counts := [0, 0, 0, 0], readyTxOpen := false, readyRxOpen := false,
      doneTxOpen := false, released := [0, 2, 1, 3], qRemaining := 0, qDone := true, sRemaining := 0,
      handedOut := [0, 2, 1, 3], invoked := [0, 2, 1, 3], endedOk := [0, 2, 1, 3], streamEnded := true,
      sDone := true, result := some (.outcome true [0, 2, 1, 3] [] []) } := by
  rw [exS4_G, exS3_eq_G]; decide

/-- unlimited: after `0` and `1` have returned, `2` is in flight and `3` waits for it -/
def exU0_G : PState := settle (exC_G none) (init (exC_G none))
def exU1_G : PState := exStep_G none exU0_G 0 true
def exU2_G : PState := exStep_G none exU1_G 1 true

theorem exU2_reach_G : Reachable (exC_G none) exU2_G :=
  exStep_reachable_G (exStep_reachable_G (settleN_reachable _ .init) _ _) _ _

theorem exU2_eq_G : exU2_G =
    { counts := [0, 0, 0, 1], released := [0, 1], qRemaining := 2, sRemaining := 2,
      handedOut := [0, 2, 1], invoked := [0, 2, 1], inflight := [2], endedOk := [0, 1], im := { hp := true } } := by
  decide

end FG
