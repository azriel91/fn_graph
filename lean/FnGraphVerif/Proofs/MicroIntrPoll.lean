/-
  One poll of the micro-step interruptible stream, run WITHOUT interference
  (no drop, no signal between its micro steps), computes exactly the atomic `sipoll c true`:
  the same state and the same answer.
-/
import FnGraphVerif.Proofs.MicroIntrSim
namespace FG

theorem mirun_drain (c : Cfg) (y : MIState) (r : Option PollRes) (as : List MIAction) :
    ∀ (k : Nat) (t : SState), k = t.doneQ.length + 1 →
      mirun c { y with m := { s := t, pc := .draining, result := r }, w := .inner }
        (List.replicate k .drainStep ++ as) =
      mirun c { y with m := { s := sDrain c k t, pc := .readyPoll, result := r }, w := .inner } as := by
  intro k
  induction k with
  | zero => intro t hk; omega
  | succ k ih =>
    intro t hk
    rw [List.replicate_succ, List.cons_append]
    cases hq : t.doneQ with
    | nil =>
      rw [hq] at hk
      obtain rfl : k = 0 := by simpa using hk
      rw [mirun_cons_some (mistep_drainStep_iff.mpr ⟨rfl, _,
        mstep_drainStep_iff.mpr ⟨rfl, Or.inr ⟨hq, rfl⟩⟩, rfl⟩), sDrain_nil c 0 hq]
      rfl
    | cons x rest =>
      rw [hq] at hk
      rw [mirun_cons_some (mistep_drainStep_iff.mpr ⟨rfl, _,
        mstep_drainStep_iff.mpr ⟨rfl, Or.inl ⟨x, rest, hq, rfl⟩⟩, rfl⟩), sDrain_cons c k hq]
      exact ih (sRelease c t x rest) (by simpa using hk)

/-- the interference-free schedule of one poll that polls the inner stream -/
def pollSchedule (k : Nat) : List MIAction :=
  .check :: .pollBegin :: (List.replicate k .drainStep ++ [.readyStep, .finish])

theorem mirun_poll_inner (c : Cfg) (x : MIState) (hw : x.w = .idle) (hpc : x.m.pc = .idle)
    (hsd : x.m.s.streamDropped = false) (hpi : pollsInner c.strat x.m.s.im = true) :
    ∃ x', mirun c x (pollSchedule (x.m.s.doneQ.length + 1)) = some x' ∧ x'.w = .idle ∧ x'.m.pc = .idle ∧
      x'.m.s = (sipoll c true x.m.s).1 ∧ x'.ret = some (sipoll c true x.m.s).2 := by
  have h1 : mistep? c x .check = some (afterCheck c x) :=
    mistep_check_iff.mpr ⟨hw, hsd, Or.inl ⟨hpi, rfl⟩⟩
  have h2 : mistep? c (afterCheck c x) .pollBegin = some { { x with pollSeen := x.sigSeen } with
      m := { s := { x.m.s with im := interruptCheck c.strat x.m.s.im, wake := false }, pc := .draining,
             result := x.m.result }, w := .inner } := by
    -- unfold first (see `afterCheck`)
    unfold afterCheck
    exact mistep_pollBegin_iff.mpr ⟨rfl, _, mstep_pollBegin_iff.mpr ⟨hpc, hsd, rfl⟩, rfl⟩
  unfold pollSchedule
  rw [mirun_cons_some h1, mirun_cons_some h2,
    mirun_drain c { x with pollSeen := x.sigSeen } x.m.result [.readyStep, .finish]
      (x.m.s.doneQ.length + 1) { x.m.s with im := interruptCheck c.strat x.m.s.im, wake := false } rfl]
  have hD : sDrain c (x.m.s.doneQ.length + 1) { x.m.s with im := interruptCheck c.strat x.m.s.im, wake := false } =
      { sDrain c (x.m.s.doneQ.length + 1) { x.m.s with wake := false } with im := interruptCheck c.strat x.m.s.im } :=
    sDrain_setIm c _ _ { x.m.s with wake := false }
  rw [hD]
  generalize hDD : sDrain c (x.m.s.doneQ.length + 1) { x.m.s with wake := false } = D
  have hfin := congrArg Prod.fst (sipoll_eq_finS c x.m.s hpi hDD)
  have hans := congrArg Prod.snd (sipoll_eq_finS c x.m.s hpi hDD)
  have hrh := sReadyHalf_setIm D (interruptCheck c.strat x.m.s.im)
  rw [mirun_cons_some (mistep_readyStep_iff.mpr ⟨rfl, _, mstep_readyStep_iff.mpr ⟨rfl, rfl⟩, rfl⟩),
    mirun_cons_some (mistep_finish_iff.mpr ⟨rfl, _, rfl, rfl⟩)]
  refine ⟨_, rfl, rfl, rfl, ?_, ?_⟩
  · show finR (sReadyHalf _).1 (sReadyHalf _).2 = _
    rw [finR_sReadyHalf, hfin]
  · show some ((pollNextPost (sReadyHalf _).1.im (underOf (sReadyHalf _).2)).2, itemOf (sReadyHalf _).2) = _
    rw [hans, sReadyHalf_im, hrh]

theorem mirun_poll_outer (c : Cfg) (x : MIState) (hw : x.w = .idle)
    (hsd : x.m.s.streamDropped = false) (hpi : pollsInner c.strat x.m.s.im = false) :
    ∃ x', mirun c x [.check] = some x' ∧ x'.w = .idle ∧ x'.m.pc = x.m.pc ∧
      x'.m.s = (sipoll c true x.m.s).1 ∧ x'.ret = some (sipoll c true x.m.s).2 := by
  have h1 : mistep? c x .check = some (afterCheckOuter c x) :=
    mistep_check_iff.mpr ⟨hw, hsd, Or.inr ⟨hpi, rfl⟩⟩
  refine ⟨afterCheckOuter c x, by rw [mirun_cons_some h1]; rfl, hw, rfl, ?_, ?_⟩
  · rw [sipoll_outer c true x.m.s hpi]
    rfl
  · rw [sipoll_outer c true x.m.s hpi]
    rfl

end FG
