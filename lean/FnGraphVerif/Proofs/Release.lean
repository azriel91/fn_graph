/-
  Proofs/Release.lean — what `relFold`, the fold shared by the queuer (`queuerRecv`) and the
  `stream_internal` poll, does to the counts, to the ready queue and to the panic flag for a
  duplicate-free child list; `unreleased`, the count the invariants compare the counts with; and which of the three do not depend on which (for the commutation
  diamonds).
-/
import FnGraphVerif.Model.Proto
import FnGraphVerif.Proofs.ListFacts
namespace FG

theorem Cfg.n_le_cap (c : Cfg) : c.n ≤ c.cap := by unfold Cfg.cap Cfg.n; omega

theorem relFold_nil (cs : Bool) (cap : Nat) (st : List Nat × List Nat × Bool) : relFold cs cap st [] = st := rfl

theorem relFold_cons (cs : Bool) (cap : Nat) (st : List Nat × List Nat × Bool) (c : Nat) (l : List Nat) :
    relFold cs cap st (c :: l) = relFold cs cap (relStep cs cap st c) l := rfl

theorem relFold_counts_length (cs : Bool) (cap : Nat) (l : List Nat) (st : List Nat × List Nat × Bool) :
    (relFold cs cap st l).1.length = st.1.length := by
  induction l generalizing st with
  | nil => rfl
  | cons c l ih => rw [relFold_cons, ih]; simp [relStep]

theorem relStep_getD (cs : Bool) (cap : Nat) (st : List Nat × List Nat × Bool) (c v : Nat) :
    (relStep cs cap st c).1[v]?.getD 0 = if v = c then st.1[c]?.getD 0 - 1 else st.1[v]?.getD 0 := by
  show (st.1.set c (st.1[c]?.getD 0 - 1))[v]?.getD 0 = _
  rw [List.getElem?_set]
  by_cases hv : c = v
  · subst hv
    by_cases hlt : c < st.1.length <;> simp [hlt]
  · rw [if_neg hv, if_neg (Ne.symm hv)]

/-- counts drop by one exactly on the children -/
theorem relFold_counts (cs : Bool) (cap : Nat) (l : List Nat) (hnd : l.Nodup)
    (st : List Nat × List Nat × Bool) (v : Nat) :
    (relFold cs cap st l).1[v]?.getD 0 = if v ∈ l then st.1[v]?.getD 0 - 1 else st.1[v]?.getD 0 := by
  induction l generalizing st with
  | nil => rfl
  | cons c l ih =>
    obtain ⟨hc, hnd'⟩ := List.nodup_cons.mp hnd
    rw [relFold_cons, ih hnd', relStep_getD]
    by_cases hv : v = c
    · subst hv
      rw [if_neg hc, if_pos rfl, if_pos List.mem_cons_self]
    · rw [if_neg hv]
      simp only [List.mem_cons, hv, false_or]

/-- if no child's count is 0 beforehand the fold never underflows -/
theorem relFold_panic (cs : Bool) (cap : Nat) (l : List Nat) (hnd : l.Nodup)
    (st : List Nat × List Nat × Bool) (hp : st.2.2 = false) (hpos : ∀ c ∈ l, st.1[c]?.getD 0 ≠ 0) :
    (relFold cs cap st l).2.2 = false := by
  induction l generalizing st with
  | nil => simpa [relFold]
  | cons c l ih =>
    have hc : c ∉ l := (List.nodup_cons.mp hnd).1
    have hnd' := (List.nodup_cons.mp hnd).2
    rw [relFold_cons]
    apply ih hnd'
    · have := hpos c (by simp)
      simp [relStep, hp, this]
    · intro x hx
      rw [relStep_getD, if_neg fun h : x = c => hc (h ▸ hx)]
      exact hpos x (List.mem_cons_of_mem _ hx)

/-- the ready queue grows by exactly the children whose count was 1, in adjacency order
    (when sending is possible and the queue never fills) -/
theorem relFold_ready (cap : Nat) (l : List Nat) (hnd : l.Nodup) (st : List Nat × List Nat × Bool)
    (hroom : st.2.1.length + l.length ≤ cap) :
    (relFold true cap st l).2.1 = st.2.1 ++ l.filter (fun c => st.1[c]?.getD 0 - 1 == 0) := by
  induction l generalizing st with
  | nil => simp [relFold]
  | cons c l ih =>
    have hc : c ∉ l := (List.nodup_cons.mp hnd).1
    have hnd' := (List.nodup_cons.mp hnd).2
    rw [relFold_cons]
    have hlen : (relStep true cap st c).2.1.length ≤ st.2.1.length + 1 := by
      simp only [relStep]; split <;> simp
    rw [ih hnd' _ (by simp only [List.length_cons] at hroom; omega)]
    have key : ∀ x ∈ l, (relStep true cap st c).1[x]?.getD 0 = st.1[x]?.getD 0 :=
      fun x hx => by rw [relStep_getD, if_neg fun h : x = c => hc (h ▸ hx)]
    have hf : l.filter (fun x => (relStep true cap st c).1[x]?.getD 0 - 1 == 0)
         = l.filter (fun x => st.1[x]?.getD 0 - 1 == 0) := by
      apply List.filter_congr
      intro x hx; rw [key x hx]
    rw [hf]
    have hlt : st.2.1.length < cap := by simp only [List.length_cons] at hroom; omega
    by_cases h0 : st.1[c]?.getD 0 - 1 = 0
    · simp [relStep, h0, hlt]
    · simp [relStep, h0]

/-- with the sender gone (or the receiver dropped) nothing is queued -/
theorem relFold_ready_closed (cap : Nat) (l : List Nat) (st : List Nat × List Nat × Bool) :
    (relFold false cap st l).2.1 = st.2.1 := by
  induction l generalizing st with
  | nil => rfl
  | cons c l ih => rw [relFold_cons, ih]; simp [relStep]

theorem relFold_readyQ (cs : Bool) (cap : Nat) (l : List Nat) (hnd : l.Nodup) (st : List Nat × List Nat × Bool)
    (hroom : st.2.1.length + l.length ≤ cap) :
    (relFold cs cap st l).2.1 = st.2.1 ++ l.filter (fun ch => cs && st.1[ch]?.getD 0 - 1 == 0) := by
  cases cs
  · rw [relFold_ready_closed]; simp
  · rw [relFold_ready cap l hnd st hroom]; simp

theorem relFold_ready_sub (cs : Bool) (cap : Nat) (l : List Nat) (st : List Nat × List Nat × Bool) :
    ∃ t, (relFold cs cap st l).2.1 = st.2.1 ++ t ∧ t.Sublist l := by
  induction l generalizing st with
  | nil => exact ⟨[], by simp [relFold], List.Sublist.refl _⟩
  | cons c l ih =>
    rw [relFold_cons]
    obtain ⟨t, ht, hsub⟩ := ih (relStep cs cap st c)
    by_cases hq : (relStep cs cap st c).2.1 = st.2.1
    · exact ⟨t, by rw [ht, hq], hsub.cons _⟩
    · have : (relStep cs cap st c).2.1 = st.2.1 ++ [c] := by
        simp only [relStep] at hq ⊢
        split at hq
        · rename_i h; simp [h]
        · exact absurd rfl hq
      exact ⟨c :: t, by rw [ht, this]; simp, hsub.cons_cons _⟩

/-- number of parents of `v` whose done id the queuer has not folded yet -/
def unreleased (g : Dag) (released : List Nat) (v : Nat) : Nat :=
  ((parents g v).filter (fun p => decide (p ∉ released))).length

theorem unreleased_eq_zero {g : Dag} {rel : List Nat} {v : Nat} :
    unreleased g rel v = 0 ↔ ∀ p ∈ parents g v, p ∈ rel := by
  simp [unreleased, List.filter_eq_nil_iff]

theorem unreleased_nil (g : Dag) (v : Nat) : unreleased g [] v = (parents g v).length := by
  simp [unreleased]

/-- releasing `x` removes exactly one unreleased parent from each child of `x`: the parents not in
    `rel ++ [x]` are the parents not in `rel`, with `x` erased -/
theorem unreleased_snoc {g : Dag} {rel : List Nat} {x : Nat} (v : Nat) (hnd : (parents g v).Nodup)
    (hx : x ∉ rel) :
    unreleased g (rel ++ [x]) v = unreleased g rel v - (if x ∈ parents g v then 1 else 0) := by
  unfold unreleased
  have e : (parents g v).filter (fun p => decide (p ∉ rel ++ [x])) =
      ((parents g v).filter (fun p => decide (p ∉ rel))).erase x := by
    rw [(hnd.filter _).erase_eq_filter, List.filter_filter]
    exact List.filter_congr fun p _ => by
      by_cases h1 : p = x <;> by_cases h2 : p ∈ rel <;> simp [h1, h2]
  have hm : x ∈ (parents g v).filter (fun p => decide (p ∉ rel)) ↔ x ∈ parents g v := by simp [hx]
  rw [e, List.length_erase]
  simp only [hm]
  split <;> rfl

/- The counts do not depend on the sender, the capacity, the queue or the flag; the queue does not
   depend on the flag; with the sender gone the queue is a frame. -/
theorem relFold_fst_indep (b b' : Bool) (cap cap' : Nat) (l : List Nat) (cs q q' : List Nat) (p p' : Bool) :
    (relFold b cap (cs, q, p) l).1 = (relFold b' cap' (cs, q', p') l).1 := by
  induction l generalizing cs q q' p p' with
  | nil => rfl
  | cons a l ih =>
    rw [relFold_cons, relFold_cons]
    exact ih _ _ _ _ _

theorem relFold_snd_indep (b : Bool) (cap : Nat) (l : List Nat) (cs q : List Nat) (p p' : Bool) :
    (relFold b cap (cs, q, p) l).2.1 = (relFold b cap (cs, q, p') l).2.1 := by
  induction l generalizing cs q p p' with
  | nil => rfl
  | cons a l ih =>
    rw [relFold_cons, relFold_cons]
    exact ih _ _ _ _

theorem relFold_closed_frame (cap : Nat) (l : List Nat) (cs q : List Nat) (p : Bool) (q' : List Nat) :
    relFold false cap (cs, q, p) l =
      ((relFold false cap (cs, q', p) l).1, q, (relFold false cap (cs, q', p) l).2.2) := by
  induction l generalizing cs p with
  | nil => rfl
  | cons a l ih =>
    rw [relFold_cons, relFold_cons]
    have h1 : relStep false cap (cs, q, p) a = (cs.set a (cs[a]?.getD 0 - 1), q, p || cs[a]?.getD 0 == 0) := by
      simp [relStep]
    have h2 : relStep false cap (cs, q', p) a = (cs.set a (cs[a]?.getD 0 - 1), q', p || cs[a]?.getD 0 == 0) := by
      simp [relStep]
    rw [h1, h2]
    exact ih _ _

end FG
