/-
  Hand-outs versus closure invocations around an interrupt (DESIGN 7.4).  `schedPoll` hands a
  function out (it joins `handedOut` / `inflight`), a later `invoke f` calls the user closure (it
  joins `invoked`); `pendingInvoke s` counts the functions that sit between the two.  Every `invoke`
  consumes one pending function, only a hand-out creates one, so
  #invokes after the signal ≤ #hand-outs after the signal + pending at the signal.  No `GoodCfg`.
-/
import FnGraphVerif.Proofs.IntrDrive
import FnGraphVerif.Proofs.RunBase
namespace FG

/-- number of functions handed out (in flight) whose closure has not been called yet -/
def pendingInvoke (s : PState) : Nat :=
  (s.inflight.filter (fun f => decide (f ∉ s.invoked))).length

def Action.isInvoke : Action → Bool
  | .invoke _ => true
  | _ => false

/-- number of `invoke` actions among the actions of `as` that come after the first `interrupt`
    (`seen` = an `interrupt` has already happened); like `handoutsAfterIntr` the count stops at the
    first action that is not enabled -/
def invokesAfterIntr (c : Cfg) : PState → Bool → List Action → Nat
  | _, _, [] => 0
  | s, seen, a :: as =>
    match step? c s a with
    | none => 0
    | some s' =>
      (if seen && a.isInvoke then 1 else 0) + invokesAfterIntr c s' (seen || a == .interrupt) as

/-- the number of functions handed out but not yet invoked at the moment of the first `interrupt`
    of `as` (0 if there is none, or if the run blocks before it) -/
def pendingAtIntr (c : Cfg) : PState → List Action → Nat
  | _, [] => 0
  | s, a :: as =>
    match step? c s a with
    | none => 0
    | some s' => if a = .interrupt then pendingInvoke s else pendingAtIntr c s' as

/-- members of `l` (with multiplicity) that are not in `inv` -/
def pend (l inv : List Nat) : Nat := (l.filter (fun f => decide (f ∉ inv))).length

theorem pendingInvoke_eq (s : PState) : pendingInvoke s = pend s.inflight s.invoked := rfl

theorem pend_nil (inv : List Nat) : pend [] inv = 0 := rfl

theorem pend_cons (x : Nat) (l inv : List Nat) :
    pend (x :: l) inv = (if x ∈ inv then 0 else 1) + pend l inv := by
  unfold pend
  by_cases hx : x ∈ inv
  · simp [hx]
  · simp [hx]; omega

theorem pend_append (l1 l2 inv : List Nat) : pend (l1 ++ l2) inv = pend l1 inv + pend l2 inv := by
  unfold pend
  rw [List.filter_append, List.length_append]

/-- invoking `f` takes its occurrences out of the pending ones -/
theorem pend_snoc (l inv : List Nat) (f : Nat) (hfi : f ∉ inv) :
    pend l (inv ++ [f]) + l.count f = pend l inv := by
  induction l with
  | nil => rfl
  | cons x l ih =>
    rw [pend_cons, pend_cons, List.count_cons]
    by_cases hxf : x = f
    · subst hxf; simp [hfi]; omega
    · by_cases hx : x ∈ inv <;> simp [hx, hxf] <;> omega

theorem pend_erase_le (l inv : List Nat) (f : Nat) : pend (l.erase f) inv ≤ pend l inv :=
  (List.erase_sublist.filter _).length_le

theorem pend_le_length (l inv : List Nat) : pend l inv ≤ l.length := by
  unfold pend
  exact List.length_filter_le _ _

variable {c : Cfg} {s s' : PState}

theorem Action.isInvoke_eq_false {a : Action} (h : ∀ f, a ≠ .invoke f) : a.isInvoke = false := by
  cases a <;> first | rfl | exact absurd rfl (h _)

/-- the potential argument for one step: an `invoke` consumes a pending function, only a
    hand-out creates one.  The right side carries the summand of `handoutsAfterIntr`, so the
    inequality telescopes along a schedule. -/
theorem pending_step {a : Action} (h : step? c s a = some s') :
    (if a.isInvoke then 1 else 0) + pendingInvoke s' ≤
      pendingInvoke s + (s'.handedOut.length - s.handedOut.length) := by
  simp only [pendingInvoke_eq]
  rcases step_lists h with ⟨ha, e1, e2, _⟩ | ⟨f, rfl, h1, h2, e1, e2, _⟩ | ⟨f, ok, rfl, _, h2, e1, e2, _⟩ |
    ⟨f, rest, rfl, _, e1, e2, e3, _⟩
  · rw [e1, e2, Action.isInvoke_eq_false ha]
    simp
  · -- `f` is in flight and not yet invoked: at least one pending occurrence goes
    have := pend_snoc s.inflight s.invoked f h2
    have := List.count_pos_iff.mpr h1
    rw [e1, e2]
    simp only [Action.isInvoke, if_true]
    -- nothing is handed out: the hand-outs' summand plays no part
    exact Nat.le_add_right_of_le (by omega)
  · have := pend_erase_le s.inflight s.invoked f
    rw [e1, e2]
    simp only [Action.isInvoke, Bool.false_eq_true, if_false]
    exact Nat.le_add_right_of_le (by omega)
  · have h1 := pend_le_length [f] s.invoked
    rw [e1, e2, e3, pend_append]
    simp only [Action.isInvoke, List.length_append, List.length_cons, List.length_nil,
      Bool.false_eq_true, if_false] at h1 ⊢
    omega

theorem pending_interrupt (h : step? c s .interrupt = some s') : pendingInvoke s' = pendingInvoke s := by
  cases step_interrupt_iff.mp h; rfl

theorem invoked_length_step {a : Action} (h : step? c s a = some s') :
    s'.invoked.length = s.invoked.length + (if a.isInvoke then 1 else 0) := by
  rcases step_lists h with ⟨ha, _, e2, _⟩ | ⟨f, rfl, _, _, _, e2, _⟩ | ⟨f, ok, rfl, _, _, _, e2, _⟩ |
    ⟨f, rest, rfl, _, _, e2, _⟩
  · rw [e2, Action.isInvoke_eq_false ha]; rfl
  · rw [e2]; simp [Action.isInvoke]
  · rw [e2]; rfl
  · rw [e2]; rfl

theorem invokes_le_handouts (c : Cfg) (as : List Action) (s : PState) (seen : Bool) :
    invokesAfterIntr c s seen as ≤
      handoutsAfterIntr c s seen as + (if seen then pendingInvoke s else pendingAtIntr c s as) := by
  induction as generalizing s seen with
  | nil => simp [invokesAfterIntr]
  | cons a as ih =>
    unfold invokesAfterIntr handoutsAfterIntr pendingAtIntr
    cases h : step? c s a with
    | none => simp
    | some s1 =>
      cases seen with
      | true =>
        have h1 := pending_step h
        have h2 := ih s1 true
        simp only [Bool.true_or, Bool.true_and, if_true] at h2 ⊢
        omega
      | false =>
        by_cases ha : a = .interrupt
        · subst ha
          have h1 := ih s1 true
          have h2 := pending_interrupt h
          simp only [Bool.false_and, Bool.false_or, Bool.false_eq_true, if_false, Nat.zero_add,
            beq_self_eq_true, if_true] at h1 ⊢
          omega
        · have hb : (a == Action.interrupt) = false := by simpa using ha
          have h2 := ih s1 false
          simp only [Bool.false_and, Bool.false_or, Bool.false_eq_true, if_false, Nat.zero_add,
            hb, ha] at h2 ⊢
          exact h2

/-- growth of `invoked` after the signal; equals `invokesAfterIntr` (`invokedGrowth_eq`) -/
def invokedGrowthAfterIntr (c : Cfg) : PState → Bool → List Action → Nat
  | _, _, [] => 0
  | s, seen, a :: as =>
    match step? c s a with
    | none => 0
    | some s' =>
      (if seen then s'.invoked.length - s.invoked.length else 0)
        + invokedGrowthAfterIntr c s' (seen || a == .interrupt) as

theorem invokedGrowth_eq (c : Cfg) (as : List Action) (s : PState) (seen : Bool) :
    invokedGrowthAfterIntr c s seen as = invokesAfterIntr c s seen as := by
  induction as generalizing s seen with
  | nil => rfl
  | cons a as ih =>
    unfold invokedGrowthAfterIntr invokesAfterIntr
    cases h : step? c s a with
    | none => rfl
    | some s1 =>
      have h1 := invoked_length_step h
      simp only [ih, h1]
      cases seen <;> cases a.isInvoke <;> simp

/-- once the signal is sent, `invokesAfterIntr` is all the growth of `invoked` -/
theorem invoked_growth_seen {as : List Action} : ∀ {s sF : PState}, run c s as = some sF →
    s.invoked.length + invokesAfterIntr c s true as = sF.invoked.length := by
  induction as with
  | nil => intro s sF h; cases h; rfl
  | cons a as ih =>
    intro s sF h
    obtain ⟨s1, hs, h1⟩ := run_cons_iff.mp h
    have h2 := invoked_length_step hs
    have h3 := ih h1
    simp only [invokesAfterIntr, hs, Bool.true_or, Bool.true_and]
    omega

theorem invoked_growth_split {pre rest : List Action} : ∀ {s0 s1 sF : PState},
    (∀ a ∈ pre, a ≠ Action.interrupt) → run c s0 pre = some s1 →
    run c s1 (.interrupt :: rest) = some sF →
    s1.invoked.length + invokesAfterIntr c s0 false (pre ++ .interrupt :: rest) =
      sF.invoked.length := by
  induction pre with
  | nil =>
    intro s0 s1 sF _ h1 h2
    cases h1
    obtain ⟨s1, hs, h3⟩ := run_cons_iff.mp h2
    have h4 := invoked_length_step hs
    have h5 := invoked_growth_seen h3
    simp only [Action.isInvoke, Bool.false_eq_true, if_false, Nat.add_zero] at h4
    simp only [List.nil_append, invokesAfterIntr, hs, Bool.false_and, Bool.false_eq_true, if_false,
      Nat.zero_add, Bool.false_or, BEq.rfl]
    omega
  | cons a pre ih =>
    intro s0 s1 sF hpre h1 h2
    obtain ⟨s0', hs, h3⟩ := run_cons_iff.mp h1
    have hb : (a == Action.interrupt) = false := by simpa using hpre a (by simp)
    simp only [List.cons_append, invokesAfterIntr, hs, Bool.false_and, Bool.false_eq_true, if_false,
      Nat.zero_add, Bool.false_or, hb]
    exact ih (fun b hb => hpre b (by simp [hb])) h3 h2

theorem pendingInvoke_of_inflight_nil {s : PState} (h : s.inflight = []) : pendingInvoke s = 0 := by
  rw [pendingInvoke_eq, h]; rfl

theorem pendingInvoke_eq_zero_iff (s : PState) :
    pendingInvoke s = 0 ↔ ∀ f ∈ s.inflight, f ∈ s.invoked := by
  unfold pendingInvoke
  rw [List.length_eq_zero_iff, List.filter_eq_nil_iff]
  constructor
  · intro h f hf
    have := h f hf
    simpa using this
  · intro h f hf
    simpa using h f hf

theorem pendingAtIntr_eq (c : Cfg) (pre rest : List Action) (s0 s : PState)
    (hpre : ∀ a ∈ pre, a ≠ Action.interrupt) (hr : run c s0 pre = some s) :
    pendingAtIntr c s0 (pre ++ .interrupt :: rest) = pendingInvoke s := by
  induction pre generalizing s0 with
  | nil =>
    cases hr
    simp [pendingAtIntr, step_int]
  | cons a pre ih =>
    obtain ⟨s1, h, hr⟩ := run_cons_iff.mp hr
    have ha : a ≠ .interrupt := hpre a (by simp)
    simp only [List.cons_append, pendingAtIntr, h, ha, if_false]
    exact ih s1 (fun b hb => hpre b (by simp [hb])) hr

/-- 0, or the schedule splits at its first `interrupt` (then `pendingAtIntr_eq` applies) -/
theorem pendingAtIntr_cases (c : Cfg) (as : List Action) : ∀ s0, pendingAtIntr c s0 as = 0 ∨
    ∃ pre rest s, as = pre ++ .interrupt :: rest ∧ (∀ a ∈ pre, a ≠ Action.interrupt) ∧
      run c s0 pre = some s := by
  induction as with
  | nil => exact fun _ => .inl rfl
  | cons a as ih =>
    intro s0
    unfold pendingAtIntr
    cases h : step? c s0 a with
    | none => exact .inl rfl
    | some s1 =>
      by_cases ha : a = .interrupt
      · subst ha
        exact .inr ⟨[], as, s0, rfl, by simp, rfl⟩
      · simp only [ha, if_false]
        rcases ih s1 with h0 | ⟨pre, rest, s, e, hp, hr⟩
        · exact .inl h0
        · exact .inr ⟨a :: pre, rest, s, by rw [e]; rfl, by simpa [ha] using hp,
            run_cons_iff.mpr ⟨s1, h, hr⟩⟩
/-! ### the sequential (`fold*`) case

  The scheduler polls the ready stream only while nothing is in flight, so at most one function
  is handed out and not yet invoked, and while a function is in flight the `InterruptibleStream`
  is not parked on a `Pending` answer.  A signal that arrives while a function is pending
  therefore makes `FinishCurrent` / `PollNextN(0)` answer `Interrupted(None)` at the next poll:
  nothing more is handed out. -/

/-- the poll that handed the function in flight out answered an item, which clears `hp` / `ipc`
    (`pollNext_item_hp`), and no poll happens until it finishes -/
structure SeqI (s : PState) : Prop where
  len : s.inflight.length ≤ 1
  notParked : s.inflight ≠ [] → s.im.hp = false ∧ s.im.ipc = false

theorem seqI_init (c : Cfg) : SeqI (init c) := ⟨by simp [init], by simp [init]⟩

theorem seq_poll_inflight_nil (hseq : c.sequential = true) (h : step? c s .schedPoll = some s') :
    s.inflight = [] :=
  (underLimit_seq_iff hseq).mp (step_schedPoll_iff.mp h).2.2.1

theorem seqI_step (hseq : c.sequential = true) {a : Action} (hi : SeqI s)
    (h : step? c s a = some s') : SeqI s' := by
  by_cases hsp : a = .schedPoll
  · subst hsp
    have hl := (step_schedPoll h).2.2.1
    rw [seq_poll_inflight_nil hseq h, List.length_nil, Nat.zero_add] at hl
    refine ⟨by rw [hl]; split <;> omega, fun hne => ?_⟩
    -- something is in flight, so the poll handed it out: its answer was an item
    have hho : (pollNext c.strat s.im (readyUnder s)).2.handsOut c.incl = true := by
      cases hh : (pollNext c.strat s.im (readyUnder s)).2.handsOut c.incl
      · rw [hh] at hl; exact absurd (List.eq_nil_of_length_eq_zero hl) hne
      · rfl
    rw [(step_schedPoll h).1]
    exact pollNext_item_hp _ _ _ (Out.handsOut_isItem hho)
  · -- every other action leaves `hp`, `ipc` alone and does not lengthen `inflight`
    have him : s'.im.hp = s.im.hp ∧ s'.im.ipc = s.im.ipc := by
      by_cases hint : a = .interrupt
      · subst hint; rw [(step_interrupt h).1]; exact ⟨rfl, rfl⟩
      · rw [(step_other h hint hsp).1]; exact ⟨rfl, rfl⟩
    have hinf : s'.inflight = s.inflight ∨ ∃ f, s'.inflight = s.inflight.erase f := by
      rcases step_lists h with ⟨_, e, _, _⟩ | ⟨_, _, _, _, e, _, _⟩ | ⟨f, _, _, _, _, e, _, _⟩ | ⟨_, _, hf, _⟩
      · exact .inl e
      · exact .inl e
      · exact .inr ⟨f, e⟩
      · exact absurd hf hsp
    refine ⟨?_, fun hne => ?_⟩
    · rcases hinf with e | ⟨f, e⟩ <;> rw [e]
      · exact hi.len
      · exact Nat.le_trans List.length_erase_le hi.len
    · rw [him.1, him.2]
      apply hi.notParked
      rcases hinf with e | ⟨f, e⟩ <;> rw [e] at hne
      · exact hne
      · intro h0; rw [h0] at hne; exact hne rfl

theorem seqI_reachable (hseq : c.sequential = true) (hr : Reachable c s) : SeqI s :=
  hr.invariant (seqI_step hseq) (seqI_init c)

theorem SeqI.pending_le_one (hi : SeqI s) : pendingInvoke s ≤ 1 :=
  Nat.le_trans (pend_le_length _ _) hi.len

theorem seq_pending_or_handouts (c : Cfg) (hseq : c.sequential = true)
    (hst : c.strat = .finish ∨ c.strat = .pollN 0) (as : List Action) (s : PState)
    (hi : SeqI s) :
    pendingAtIntr c s as = 0 ∨ handoutsAfterIntr c s false as = 0 := by
  induction as generalizing s with
  | nil => exact Or.inl rfl
  | cons a as ih =>
    unfold pendingAtIntr handoutsAfterIntr
    cases h : step? c s a with
    | none => exact Or.inl rfl
    | some s1 =>
      by_cases ha : a = .interrupt
      · subst ha
        simp only [if_true, Bool.false_eq_true, if_false, Nat.zero_add, Bool.false_or,
          beq_self_eq_true]
        by_cases hz : pendingInvoke s = 0
        · exact Or.inl hz
        · right
          have hne : s.inflight ≠ [] :=
            fun h0 => hz (pendingInvoke_of_inflight_nil h0)
          obtain ⟨q1, q2⟩ := hi.notParked hne
          obtain ⟨e1, _, _, _⟩ := step_interrupt h
          -- not parked when the signal arrives: the budget of limit 0 is empty
          have hb : s1.im.bud 0 = 0 := by rw [e1]; exact bud_zero_idle q1 q2
          exact Nat.le_zero.mp (hb ▸ handouts_le_bud c (Strat.lim_zero hst) as s1
            (by rw [e1]; exact Or.inr rfl))
      · have hb : (a == Action.interrupt) = false := by simpa using ha
        simp only [ha, if_false, Bool.false_eq_true, Nat.zero_add, Bool.false_or, hb]
        exact ih s1 (seqI_step hseq hi h)

end FG
