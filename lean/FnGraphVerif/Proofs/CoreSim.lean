/-
  Proofs/CoreSim.lean — the "core" internal actions (everything internal except `invoke`), the
  normal form `norm` that forgets what the order of internal actions may influence (all of `invoked`;
  the ready queue once its receiver is dropped), the induced equivalence `Sim`, and the
  proof that `Sim` is a strong bisimulation for the core actions.
-/
import FnGraphVerif.Proofs.SettleStep
import FnGraphVerif.Proofs.Release
namespace FG
variable {c : Cfg} {s s' t : PState}

/-- core actions: the internal actions of the queuer, the scheduler and the caller -/
inductive CA | qr | qe | sp | se | rt
  deriving DecidableEq, Repr

def CA.act : CA → Action
  | .qr => .queuerRecv
  | .qe => .queuerEnd
  | .sp => .schedPoll
  | .se => .schedEnd
  | .rt => .ret

theorem CA.act_internal (a : CA) : a.act.internal := by
  cases a <;> exact ⟨by simp [CA.act], by simp [CA.act]⟩

theorem Action.internal.cases {a : Action} (ha : a.internal) : (∃ b : CA, a = b.act) ∨ ∃ f, a = .invoke f := by
  cases a with
  | queuerRecv => exact Or.inl ⟨.qr, rfl⟩
  | queuerEnd => exact Or.inl ⟨.qe, rfl⟩
  | schedPoll => exact Or.inl ⟨.sp, rfl⟩
  | schedEnd => exact Or.inl ⟨.se, rfl⟩
  | ret => exact Or.inl ⟨.rt, rfl⟩
  | invoke f => exact Or.inr ⟨f, rfl⟩
  | interrupt => exact absurd rfl ha.1
  | finish f ok => exact absurd rfl (ha.2 f ok)

/-- forget the order-dependent parts -/
def norm (s : PState) : PState :=
  { s with invoked := [], readyQ := if s.readyRxOpen then s.readyQ else [] }

/-- equal up to `invoked` and, once the ready receiver is gone, the ready queue -/
def Sim (s t : PState) : Prop := norm s = norm t

theorem Sim.refl (s : PState) : Sim s s := rfl
theorem Sim.symm (h : Sim s t) : Sim t s := Eq.symm h
theorem Sim.trans {u : PState} (h1 : Sim s t) (h2 : Sim t u) : Sim s u := Eq.trans h1 h2

/-! ### frame lemmas: the core actions neither read nor write `invoked` -/

theorem spApply_invoked (X : List Nat) (m : IM) (out : Out) :
    spApply c { s with invoked := X } m out = (spApply c s m out).map (fun t => { t with invoked := X }) := by
  cases out <;> simp only [spApply, Option.map]
  · split <;> rfl
  · split
    · rfl
    · split <;> rfl

theorem step_invoked_frame (a : CA) (X : List Nat) :
    step? c { s with invoked := X } a.act = (step? c s a.act).map (fun t => { t with invoked := X }) := by
  cases a
  · simp only [CA.act, step_qr]
    split
    · rfl
    · split
      · rfl
      · rfl
  · simp only [CA.act, step_qe]
    split <;> rfl
  · simp only [CA.act, step_sp]
    have hg : spBlocked c { s with invoked := X } = spBlocked c s := rfl
    have hu : readyUnder { s with invoked := X } = readyUnder s := rfl
    rw [hg, hu]
    split
    · rfl
    · exact spApply_invoked X _ _
  · simp only [CA.act, step_se]
    split <;> rfl
  · simp only [CA.act, step_rt]
    split <;> rfl

/-! ### frame lemmas: once the ready receiver is gone the ready queue is dead -/

theorem qrApply_readyQ (Y : List Nat) (x : Nat) (rest : List Nat) (hrx : s.readyRxOpen = false) :
    qrApply c { s with readyQ := Y } x rest = { qrApply c s x rest with readyQ := Y } := by
  unfold qrApply
  simp only [hrx, Bool.and_false]
  rw [relFold_closed_frame c.cap (children c.D x) s.counts Y _ s.readyQ]

theorem step_readyQ_frame (a : CA) (Y : List Nat) (hrx : s.readyRxOpen = false) (hg : spBlocked c s = true) :
    step? c { s with readyQ := Y } a.act = (step? c s a.act).map (fun t => { t with readyQ := Y }) := by
  cases a
  · simp only [CA.act, step_qr]
    split
    · rfl
    · split
      · rfl
      · simp only [Option.map]
        rw [qrApply_readyQ Y _ _ hrx]
  · simp only [CA.act, step_qe]
    split <;> rfl
  · simp only [CA.act, step_sp]
    have hg' : spBlocked c { s with readyQ := Y } = true := hg
    rw [hg, hg']
    rfl
  · simp only [CA.act, step_se]
    split <;> rfl
  · simp only [CA.act, step_rt]
    split <;> rfl

theorem sim_exists (h : Sim s t) : ∃ X Y, t = { s with invoked := X, readyQ := Y } ∧
    (s.readyRxOpen = true → Y = s.readyQ) := by
  refine ⟨t.invoked, t.readyQ, ?_⟩
  cases s; cases t
  simp only [Sim, norm, PState.mk.injEq, true_and] at h ⊢
  obtain ⟨h1, h2, h3, h4, h⟩ := h
  subst h4
  refine ⟨by simp_all, fun hrx => ?_⟩
  simpa [hrx] using h2.symm

theorem core_rx_closed (a : CA) (h : step? c s a.act = some s') (hrx : s.readyRxOpen = false) :
    s'.readyRxOpen = false := by
  cases a
  · obtain ⟨_, _, x, rest, _, rfl⟩ := step_queuerRecv_iff.mp h; exact hrx
  · obtain ⟨_, _, _, rfl⟩ := step_queuerEnd_iff.mp h; exact hrx
  · obtain ⟨_, _, _, hp⟩ := step_schedPoll_iff.mp h
    rcases spApply_eq_some hp with ⟨_, rfl⟩ | ⟨_, rfl⟩ | ⟨_, rfl⟩ | ⟨_, f, rest, _, rfl⟩ |
      ⟨_, f, rest, _, ⟨_, rfl⟩ | ⟨_, rfl⟩⟩
    · exact hrx
    · rfl
    · exact hrx
    · exact hrx
    · exact hrx
    · exact hrx
  · obtain ⟨_, _, _, rfl⟩ := step_schedEnd_iff.mp h; exact hrx
  · obtain ⟨_, _, _, rfl⟩ := step_ret_iff.mp h; exact hrx

/-- `Sim` is a strong bisimulation for the core actions (on states whose ready receiver, once
    dropped, is never polled again — every reachable state, `LInv.rrx`) -/
theorem sim_step (a : CA) (hs : Sim s t) (hrr : s.readyRxOpen = false → spBlocked c s = true)
    (h : step? c s a.act = some s') : ∃ t', step? c t a.act = some t' ∧ Sim s' t' := by
  obtain ⟨X, Y, rfl, hq⟩ := sim_exists hs
  rcases Bool.eq_false_or_eq_true s.readyRxOpen with hrx | hrx
  · have hY := hq hrx
    subst hY
    refine ⟨{ s' with invoked := X }, ?_, rfl⟩
    have := step_invoked_frame (c := c) (s := s) a X
    rw [h] at this
    exact this
  · refine ⟨{ s' with invoked := X, readyQ := Y }, ?_, ?_⟩
    · have h1 := step_readyQ_frame (c := c) (s := s) a Y hrx (hrr hrx)
      rw [h] at h1
      have h2 := step_invoked_frame (c := c) (s := { s with readyQ := Y }) a X
      rw [h1] at h2
      exact h2
    · have := core_rx_closed a h hrx
      simp only [Sim, norm, this]
      rfl

end FG
