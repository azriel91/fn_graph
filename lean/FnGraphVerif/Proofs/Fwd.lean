/-
  Proofs/Fwd.lean — edge-monotone numberings.

  `Fwd g f` (`Proofs/Reach.lean`): the numbering `f` rises strictly along every edge of `g`.
  Here: a well-formed graph has one iff it is acyclic (the number of strict ancestors), and a
  numbering gives induction along the edges with no well-formedness or bound.
-/
import FnGraphVerif.Proofs.Reach
import FnGraphVerif.Model.RankCalc
import Mathlib.Data.Finset.Card
namespace FG

theorem mem_roots {g : Dag} {v : Nat} : v ∈ roots g ↔ v < g.n ∧ ∀ p, ¬ IsEdge g p v := by
  simp only [roots, List.mem_filter, List.mem_range, isRoot, List.isEmpty_iff, List.eq_nil_iff_forall_not_mem,
    mem_parents]

namespace Fwd
variable {g : Dag} {f : Nat → Nat}

theorem induction (h : Fwd g f) (P : Nat → Prop) (hstep : ∀ v, (∀ p, IsEdge g p v → P p) → P v) :
    ∀ v, P v := by
  have key : ∀ k v, f v < k → P v := by
    intro k
    induction k with
    | zero => intro v hv; omega
    | succ k ih => exact fun v hv => hstep v fun p hp => ih p (by have := h p v hp; omega)
  exact fun v => key (f v + 1) v (Nat.lt_succ_self _)

end Fwd

/-- the number of strict ancestors is a numbering, and it stays below `g.n` -/
theorem exists_fwd {g : Dag} (hwf : WF g) (hac : Acyclic g) :
    ∃ f, Fwd g f ∧ ∀ v, v < g.n → f v < g.n := by
  classical
  refine ⟨fun v => ((Finset.range g.n).filter (fun u => ReachP g u v)).card, ?_, ?_⟩
  · intro u v he
    refine Finset.card_lt_card ⟨fun x hx => ?_, fun hsub => ?_⟩
    · simp only [Finset.mem_filter, Finset.mem_range] at hx ⊢
      exact ⟨hx.1, ReachP.tail hx.2 he⟩
    · have : u ∈ (Finset.range g.n).filter (fun x => ReachP g x u) :=
        hsub (by simpa using ⟨(he.lt hwf).1, ReachP.edge he⟩)
      exact hac u (Finset.mem_filter.mp this).2
  · intro v hv
    have := Finset.card_lt_card ((Finset.filter_ssubset (p := fun u => ReachP g u v)).mpr
      ⟨v, Finset.mem_range.mpr hv, hac v⟩)
    simpa using this

theorem parents_induction {g : Dag} (hwf : WF g) (hac : Acyclic g) (P : Nat → Prop)
    (hstep : ∀ v, v < g.n → (∀ p ∈ parents g v, P p) → P v) : ∀ v, v < g.n → P v := by
  obtain ⟨f, hf, _⟩ := exists_fwd hwf hac
  exact hf.induction (fun v => v < g.n → P v) fun v ih hv =>
    hstep v hv fun p hp => ih p (mem_parents.mp hp) ((mem_parents.mp hp).lt hwf).1

theorem exists_root {g : Dag} (hwf : WF g) (hac : Acyclic g) (hn : g.n ≠ 0) :
    ∃ r, r < g.n ∧ parents g r = [] := by
  have key := parents_induction hwf hac (fun _ => ∃ r, r < g.n ∧ parents g r = []) (by
    intro v hv hp
    cases hpar : parents g v with
    | nil => exact ⟨v, hv, hpar⟩
    | cons p l => exact hp p (by rw [hpar]; simp))
  exact key 0 (by omega)

theorem acyclic_iff_exists_fwd {g : Dag} (hwf : WF g) : Acyclic g ↔ ∃ f, Fwd g f :=
  ⟨fun hac => (exists_fwd hwf hac).imp fun _ h => h.1, fun ⟨_, h⟩ => h.acyclic⟩

end FG
