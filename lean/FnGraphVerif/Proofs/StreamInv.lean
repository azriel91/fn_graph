/-
  Inductive invariant of the poll-level stream model
  (`Model/StreamPoll.lean`, fixed closure `drain = true`).

  `SCore` is the part that every intermediate state of a poll satisfies (it is preserved by
  `sRelease`, `sDrain`, `spoll`, `sdrop`, …); `SPark` are the waker facts that hold between
  actions.  `SInv = SCore ∧ SPark` holds in every `SReachable c true` state.
-/
import FnGraphVerif.Proofs.RelCore
import FnGraphVerif.Proofs.StreamStep
import FnGraphVerif.Proofs.PartialRun
import FnGraphVerif.Proofs.ListFacts
import FnGraphVerif.Proofs.ExampleCfgs
namespace FG

structure SCore (c : Cfg) (s : SState) : Prop where
  cnt : ∀ v, s.counts[v]?.getD 0 = unreleased c.D s.released v
  relNodup : (s.released ++ s.doneQ).Nodup
  doneDropped : ∀ x, x ∈ s.released ∨ x ∈ s.doneQ → x ∈ s.droppedRefs
  droppedDone : s.streamDropped = false → ∀ x ∈ s.droppedRefs, x ∈ s.released ∨ x ∈ s.doneQ
  ready : ∀ v, v ∈ s.readyQ ∨ v ∈ s.yielded → ∀ p ∈ parents c.D v, p ∈ s.released
  queueNodup : (s.readyQ ++ s.yielded).Nodup
  bound : ∀ v, v ∈ s.readyQ ∨ v ∈ s.yielded → v < c.n
  liveYielded : ∀ f ∈ s.live, f ∈ s.yielded
  liveNodup : s.live.Nodup
  liveNotDropped : ∀ f ∈ s.live, f ∉ s.droppedRefs
  droppedYielded : ∀ f ∈ s.droppedRefs, f ∈ s.yielded
  rem : s.fnsRemaining + s.yielded.length = c.n
  tx : s.txOpen = true ↔ s.fnsRemaining ≠ 0
  complete : s.txOpen = true → ∀ v, v < c.n → (∀ p ∈ parents c.D v, p ∈ s.released) →
    v ∈ s.readyQ ∨ v ∈ s.yielded
  noPanic : s.panic = false

/-- waker facts between actions: a parked consumer (`lastPending`) has nothing queued, still holds
    its senders, and either was woken or sits registered on an empty done channel. -/
structure SPark (s : SState) : Prop where
  parked : s.lastPending = true → s.txOpen = true ∧ s.readyQ = []
  parkedWake : s.lastPending = true → s.streamDropped = false →
    s.wake = true ∨ (s.doneQ = [] ∧ s.doneRxWaker = true)

structure SInv (c : Cfg) (s : SState) : Prop where
  core : SCore c s
  park : SPark s

/-- `SCore` does not speak of the wakers, of `wake`, `lastPending` and the wrapper's `im` -/
theorem SCore.of_flags {c : Cfg} {s : SState} (h : SCore c s) (dw rw w lp : Bool) (i : IM) :
    SCore c { s with doneRxWaker := dw, readyRxWaker := rw, wake := w, lastPending := lp, im := i } :=
  { h with }

theorem SCore.readyLen {c : Cfg} {s : SState} (h : SCore c s) : s.readyQ.length ≤ c.n :=
  nodup_bounded_length (List.nodup_append.mp h.queueNodup).1 (fun x hx => h.bound x (Or.inl hx))

theorem SCore.doneLen {c : Cfg} {s : SState} (h : SCore c s) : s.doneQ.length ≤ c.n :=
  nodup_bounded_length (List.nodup_append.mp h.relNodup).2.1
    (fun x hx => h.bound x (Or.inr (h.droppedYielded x (h.doneDropped x (Or.inr hx)))))

/-- a live `FnRef` can always `try_send` its id: the done channel has room -/
theorem SCore.doneRoom {c : Cfg} {s : SState} (h : SCore c s) {f : Nat} (hf : f ∈ s.live) :
    s.doneQ.length < c.cap := by
  have hfd : f ∉ s.doneQ := fun hq => h.liveNotDropped f hf (h.doneDropped f (Or.inr hq))
  have hnd : (f :: s.doneQ).Nodup := List.nodup_cons.mpr ⟨hfd, (List.nodup_append.mp h.relNodup).2.1⟩
  have hb : ∀ x ∈ f :: s.doneQ, x < c.n := by
    intro x hx
    rcases List.mem_cons.mp hx with rfl | hx
    · exact h.bound _ (Or.inr (h.liveYielded _ hf))
    · exact h.bound x (Or.inr (h.droppedYielded x (h.doneDropped x (Or.inr hx))))
  have := nodup_bounded_length hnd hb
  simp only [List.length_cons] at this
  have := c.n_le_cap
  omega

theorem score_init {c : Cfg} (hc : GoodCfg c) : SCore c (sinit c) := by
  have hpre : ∀ v, v ∈ preload c → v < c.n := fun v hv => ((hc.preMem v).mp hv).1
  refine
    { cnt := ?_, relNodup := by simp [sinit], doneDropped := by simp [sinit],
      droppedDone := by simp [sinit], ready := ?_, queueNodup := by simpa [sinit] using hc.preNodup,
      bound := ?_, liveYielded := by simp [sinit], liveNodup := by simp [sinit],
      liveNotDropped := by simp [sinit], droppedYielded := by simp [sinit],
      rem := by simp [sinit], tx := by simp [sinit], complete := ?_, noPanic := ?_ }
  · intro v
    simp only [sinit, unreleased_nil]
    exact hc.counts v
  · intro v hv p hp
    simp only [sinit, List.not_mem_nil, or_false] at hv
    rw [((hc.preMem v).mp hv).2] at hp
    simp at hp
  · intro v hv
    simp only [sinit, List.not_mem_nil, or_false] at hv
    exact hpre v hv
  · intro _ v hv hp
    left
    simp only [sinit]
    apply (hc.preMem v).mpr
    refine ⟨hv, ?_⟩
    apply List.eq_nil_iff_forall_not_mem.mpr
    intro p hpm
    have := hp p hpm
    simp [sinit] at this
  · simp only [sinit, decide_eq_false_iff_not, Nat.not_lt]
    have := nodup_bounded_length hc.preNodup hpre
    have := c.n_le_cap
    omega

theorem spark_init (c : Cfg) : SPark (sinit c) := by
  constructor <;> simp [sinit]

-- `sRelease` field by field (its body is a chain of `let`s)
section release
variable (c : Cfg) (s : SState) (x : Nat) (rest : List Nat)

@[simp] theorem sRelease_released : (sRelease c s x rest).released = s.released ++ [x] := rfl
@[simp] theorem sRelease_doneQ : (sRelease c s x rest).doneQ = rest := rfl
@[simp] theorem sRelease_counts : (sRelease c s x rest).counts =
    (relFold s.txOpen c.cap (s.counts, s.readyQ, s.panic) (children c.D x)).1 := rfl
@[simp] theorem sRelease_readyQ : (sRelease c s x rest).readyQ =
    (relFold s.txOpen c.cap (s.counts, s.readyQ, s.panic) (children c.D x)).2.1 := rfl
@[simp] theorem sRelease_panic : (sRelease c s x rest).panic =
    (relFold s.txOpen c.cap (s.counts, s.readyQ, s.panic) (children c.D x)).2.2 := rfl
@[simp] theorem sRelease_yielded : (sRelease c s x rest).yielded = s.yielded := rfl
@[simp] theorem sRelease_live : (sRelease c s x rest).live = s.live := rfl
@[simp] theorem sRelease_droppedRefs : (sRelease c s x rest).droppedRefs = s.droppedRefs := rfl
@[simp] theorem sRelease_streamDropped : (sRelease c s x rest).streamDropped = s.streamDropped := rfl
@[simp] theorem sRelease_fnsRemaining : (sRelease c s x rest).fnsRemaining = s.fnsRemaining := rfl
@[simp] theorem sRelease_txOpen : (sRelease c s x rest).txOpen = s.txOpen := rfl
@[simp] theorem sRelease_lastPending : (sRelease c s x rest).lastPending = s.lastPending := rfl
@[simp] theorem sRelease_im : (sRelease c s x rest).im = s.im := rfl
end release

theorem SCore.relCore {c : Cfg} {s : SState} (h : SCore c s) : RelCore c s.counts s.released s.readyQ s.yielded :=
  ⟨h.cnt, h.ready, h.queueNodup, h.bound⟩

theorem score_release {c : Cfg} (hc : GoodCfg c) {s : SState} (h : SCore c s) {x : Nat} {rest : List Nat}
    (hq : s.doneQ = x :: rest) : SCore c (sRelease c s x rest) := by
  have hnd := h.relNodup
  rw [hq] at hnd
  have hxr : x ∉ s.released := fun hx => List.disjoint_of_nodup_append hnd hx (by simp)
  obtain ⟨hcore, hpan, hrq⟩ := h.relCore.release hc hxr s.txOpen h.noPanic
  -- unfold first (see `afterCheck`, Proofs/MicroIntrMachine.lean)
  unfold sRelease
  refine
    { cnt := hcore.cnt, relNodup := ?_, doneDropped := ?_, droppedDone := ?_, ready := hcore.ready,
      queueNodup := hcore.queueNodup, bound := hcore.bound, liveYielded := h.liveYielded,
      liveNodup := h.liveNodup, liveNotDropped := h.liveNotDropped, droppedYielded := h.droppedYielded,
      rem := h.rem, tx := h.tx, complete := ?_, noPanic := hpan }
  · show (s.released ++ [x] ++ rest).Nodup
    rw [List.append_assoc]
    exact hnd
  · intro y hy
    change y ∈ s.released ++ [x] ∨ y ∈ rest at hy
    apply h.doneDropped y
    rw [hq]
    simp only [List.mem_append, List.mem_cons, List.not_mem_nil, or_false] at hy ⊢
    exact or_assoc.mp hy
  · intro hsd y hy
    show y ∈ s.released ++ [x] ∨ y ∈ rest
    have := h.droppedDone hsd y hy
    rw [hq] at this
    simp only [List.mem_append, List.mem_cons, List.not_mem_nil, or_false] at this ⊢
    exact or_assoc.mpr this
  · -- a node whose parents are all released now: `x` was its last parent (it is queued by this fold)
    -- or it was complete before
    intro htx v hv hp
    change ∀ p ∈ parents c.D v, p ∈ s.released ++ [x] at hp
    show v ∈ (relFold s.txOpen c.cap (s.counts, s.readyQ, s.panic) (children c.D x)).2.1 ∨ v ∈ s.yielded
    rw [hrq, List.mem_append, List.mem_filter]
    by_cases hxp : x ∈ parents c.D v
    · refine Or.inl (Or.inr ⟨mem_children.mpr (mem_parents.mp hxp), ?_⟩)
      rw [show s.txOpen = true from htx, unreleased_eq_zero.mpr hp]
      rfl
    · have : ∀ p ∈ parents c.D v, p ∈ s.released := fun p hpm =>
        (List.mem_append.mp (hp p hpm)).resolve_right
          (fun h1 => hxp (List.mem_singleton.mp h1 ▸ hpm))
      exact (h.complete htx v hv this).imp Or.inl id

theorem RelStar.core {c : Cfg} (hc : GoodCfg c) {s a : SState} (h : RelStar c s a) (hs : SCore c s) :
    SCore c a := by
  induction h with
  | refl => exact hs
  | step _ hq ih => exact score_release hc ih hq

/-- an atomic poll is `fn_ready_rx.poll_recv` in the drained state `d`: an iterate of the drain loop
    from `{ s with wake := false }` with an empty done channel, registered (`sReg`) -/
theorem spoll_eq_drained {c : Cfg} (hc : GoodCfg c) {s : SState} (h : SCore c s) :
    ∃ d, SCore c d ∧ SameOuter s d ∧ d.doneQ = [] ∧ d.released = s.released ++ s.doneQ ∧
      (d.txOpen = true → d.doneRxWaker = true) ∧
      spoll c true s = sReadyHalf d := by
  obtain ⟨b, hb, hq, e⟩ := sDrain_relStar c (s.doneQ.length + 1) (.refl { s with wake := false })
    (Nat.lt_succ_self _)
  obtain ⟨l, h1, h2⟩ := hb.released
  rw [hq, List.append_nil] at h2
  have hso : SameOuter s (sReg b) :=
    SameOuter.trans (b := { s with wake := false }) ⟨rfl, rfl, rfl, rfl, rfl, rfl, rfl, rfl⟩
      (hb.sameOuter.trans (sReg_sameOuter b))
  refine ⟨sReg b, ?_, hso, ?_, ?_, fun htx => sReg_registered ((sReg_sameOuter b).txOpen.symm.trans htx),
    (spoll_eq c s).trans (congrArg sReadyHalf e)⟩ <;> rw [sReg_eq]
  · exact (hb.core hc (h.of_flags _ _ _ _ _)).of_flags _ _ _ _ _
  · exact hq
  · exact h2 ▸ h1

/-- the stream has closed its senders exactly when everything was yielded -/
theorem SCore.txOpen_false_iff {c : Cfg} {s : SState} (h : SCore c s) :
    s.txOpen = false ↔ s.yielded.length = c.n := by
  have hrem := h.rem
  cases htx : s.txOpen
  · have : s.fnsRemaining = 0 := Classical.byContradiction fun hne => by
      rw [h.tx.mpr hne] at htx; cases htx
    exact ⟨fun _ => (by omega), fun _ => rfl⟩
  · have := h.tx.mp htx
    exact ⟨fun e => (by cases e), fun e => (by omega)⟩

/-- the underlying stream answers `None` exactly after everything was yielded (any strategy) -/
theorem spoll_none_iff {c : Cfg} (hc : GoodCfg c) {s : SState} (h : SCore c s) :
    (spoll c true s).2 = .none ↔ s.yielded.length = c.n := by
  obtain ⟨d, _, hso, _, _, _, heq⟩ := spoll_eq_drained hc h
  rw [heq, (sReadyHalf_facts d).2.2.1, hso.txOpen, h.txOpen_false_iff]

theorem score_yield {c : Cfg} {d : SState} (h : SCore c d) (htx : d.txOpen = true) {f : Nat} {rest : List Nat}
    (hq : d.readyQ = f :: rest) : SCore c (syield d f rest) := by
  -- the head of the ready queue moves to the end of `yielded`: a permutation of the two lists
  have hperm : (rest ++ (d.yielded ++ [f])).Perm (d.readyQ ++ d.yielded) := by
    rw [hq, ← List.append_assoc]
    exact List.perm_append_singleton f (rest ++ d.yielded)
  have hmem : ∀ v, (v ∈ rest ∨ v ∈ d.yielded ++ [f]) ↔ (v ∈ d.readyQ ∨ v ∈ d.yielded) := fun v => by
    rw [← List.mem_append, ← List.mem_append]; exact hperm.mem_iff
  have hfy : f ∉ d.yielded := fun hm =>
    List.disjoint_of_nodup_append h.queueNodup (hq ▸ List.mem_cons_self ..) hm
  have hrem : d.fnsRemaining ≠ 0 := h.tx.mp htx
  refine
    { cnt := h.cnt, relNodup := h.relNodup, doneDropped := h.doneDropped, droppedDone := h.droppedDone,
      ready := ?_, queueNodup := hperm.nodup_iff.mpr h.queueNodup, bound := ?_, liveYielded := ?_,
      liveNodup := ?_, liveNotDropped := ?_, droppedYielded := ?_, rem := ?_, tx := ?_, complete := ?_,
      noPanic := ?_ }
  · intro v hv; exact h.ready v ((hmem v).mp hv)
  · intro v hv; exact h.bound v ((hmem v).mp hv)
  · intro g hg
    show g ∈ d.yielded ++ [f]
    rcases List.mem_append.mp hg with hg | hg
    · exact List.mem_append_left _ (h.liveYielded g hg)
    · exact List.mem_append_right _ hg
  · show (d.live ++ [f]).Nodup
    rw [nodup_append_singleton]
    exact ⟨h.liveNodup, fun hm => hfy (h.liveYielded f hm)⟩
  · intro g hg
    show g ∉ d.droppedRefs
    rcases List.mem_append.mp hg with hg | hg
    · exact h.liveNotDropped g hg
    · simp only [List.mem_singleton] at hg; subst hg
      exact fun hm => hfy (h.droppedYielded g hm)
  · intro g hg
    show g ∈ d.yielded ++ [f]
    exact List.mem_append_left _ (h.droppedYielded g hg)
  · show d.fnsRemaining - 1 + (d.yielded ++ [f]).length = c.n
    rw [List.length_append, List.length_singleton, ← h.rem, ← Nat.add_assoc, Nat.add_right_comm,
      Nat.sub_add_cancel (Nat.pos_of_ne_zero hrem)]
  · show (d.fnsRemaining - 1 != 0) = true ↔ d.fnsRemaining - 1 ≠ 0
    simp
  · intro _ v hv hp
    exact (hmem v).mpr (h.complete htx v hv hp)
  · show (d.panic || d.fnsRemaining == 0) = false
    simp [h.noPanic, hrem]

theorem score_sReadyHalf {c : Cfg} {d : SState} (h : SCore c d) : SCore c (sReadyHalf d).1 := by
  rcases sReadyHalf_cases d with ⟨_, e⟩ | ⟨_, _, e⟩ | ⟨f, rest, htx, hq, e⟩ <;> rw [e]
  · exact h
  · exact h.of_flags _ _ _ _ _
  · exact score_yield h htx hq

theorem score_dropped {c : Cfg} {s : SState} (h : SCore c s) {f : Nat} (hf : f ∈ s.live) {dq : List Nat}
    (w r : Bool) (hdq : dq = s.doneQ ++ [f] ∨ (dq = s.doneQ ∧ s.streamDropped = true)) :
    SCore c (sdropped s f dq w r) := by
  -- `f` leaves `live` for `droppedRefs` and joins the end of `doneQ` — unless the stream is gone, and
  -- then `droppedDone` asks nothing; `f` was in none of `droppedRefs`, `released`, `doneQ`
  have hfd : f ∉ s.droppedRefs := h.liveNotDropped f hf
  have hfr : f ∉ s.released := fun hm => hfd (h.doneDropped f (Or.inl hm))
  have hfq : f ∉ s.doneQ := fun hm => hfd (h.doneDropped f (Or.inr hm))
  refine
    { cnt := h.cnt, relNodup := ?_, doneDropped := ?_, droppedDone := ?_, ready := h.ready,
      queueNodup := h.queueNodup, bound := h.bound, liveYielded := ?_, liveNodup := ?_,
      liveNotDropped := ?_, droppedYielded := ?_, rem := h.rem, tx := h.tx, complete := h.complete,
      noPanic := h.noPanic }
  · show (s.released ++ dq).Nodup
    rcases hdq with rfl | ⟨rfl, _⟩
    · rw [← List.append_assoc, nodup_append_singleton]
      refine ⟨h.relNodup, fun hm => ?_⟩
      rcases List.mem_append.mp hm with hm | hm
      · exact hfr hm
      · exact hfq hm
    · exact h.relNodup
  · intro x hx
    show x ∈ s.droppedRefs ++ [f]
    change x ∈ s.released ∨ x ∈ dq at hx
    rcases hdq with rfl | ⟨rfl, _⟩
    · rcases hx with hx | hx
      · exact List.mem_append_left _ (h.doneDropped x (Or.inl hx))
      · rcases List.mem_append.mp hx with hx | hx
        · exact List.mem_append_left _ (h.doneDropped x (Or.inr hx))
        · exact List.mem_append_right _ hx
    · exact List.mem_append_left _ (h.doneDropped x hx)
  · intro hsd x hx
    change s.streamDropped = false at hsd
    change x ∈ s.droppedRefs ++ [f] at hx
    show x ∈ s.released ∨ x ∈ dq
    rcases hdq with rfl | ⟨rfl, hsd'⟩
    · rcases List.mem_append.mp hx with hx | hx
      · rcases h.droppedDone hsd x hx with h1 | h1
        · exact Or.inl h1
        · exact Or.inr (List.mem_append_left _ h1)
      · exact Or.inr (List.mem_append_right _ hx)
    · rw [hsd] at hsd'; cases hsd'
  · intro g hg
    exact h.liveYielded g (List.mem_of_mem_erase hg)
  · exact h.liveNodup.erase f
  · intro g hg
    change g ∈ s.live.erase f at hg
    show g ∉ s.droppedRefs ++ [f]
    have hg' := (h.liveNodup.mem_erase_iff).mp hg
    intro hm
    rcases List.mem_append.mp hm with hm | hm
    · exact h.liveNotDropped g hg'.2 hm
    · simp only [List.mem_singleton] at hm; exact hg'.1 hm
  · intro g hg
    change g ∈ s.droppedRefs ++ [f] at hg
    show g ∈ s.yielded
    rcases List.mem_append.mp hg with hg | hg
    · exact h.droppedYielded g hg
    · simp only [List.mem_singleton] at hg; subst hg; exact h.liveYielded g hf

theorem score_drop {c : Cfg} {s s' : SState} {f : Nat} (h : SCore c s) (hd : sdrop c s f = some s') :
    SCore c s' := by
  obtain ⟨hf, rfl⟩ := sdrop_iff.mp hd
  split
  · rename_i hcond
    refine score_dropped h hf _ _ (Or.inr ⟨rfl, ?_⟩)
    rcases Bool.or_eq_true_iff.mp hcond with h1 | h1
    · exact h1
    · have := h.doneRoom hf
      have := of_decide_eq_true h1
      omega
  · exact score_dropped h hf _ _ (Or.inl rfl)

/-- "woken, or registered on an empty done channel" survives a drop: the drop consumes the waker -/
theorem wakeOrReg_drop {c : Cfg} {s s' : SState} {f : Nat} (hd : sdrop c s f = some s')
    (h : s.wake = true ∨ (s.doneQ = [] ∧ s.doneRxWaker = true)) :
    s'.wake = true ∨ (s'.doneQ = [] ∧ s'.doneRxWaker = true) := by
  rcases (sdrop_spec hd).sent with ⟨e1, e2, e3⟩ | ⟨_, e2⟩
  · rw [e1, e2, e3]; exact h
  · left
    rw [e2]
    rcases h with h1 | ⟨_, h1⟩ <;> simp [h1]

theorem spark_drop {c : Cfg} {s s' : SState} {f : Nat} (h : SPark s) (hd : sdrop c s f = some s') :
    SPark s' := by
  have hs := sdrop_spec hd
  refine ⟨fun hp => ?_, fun hp hsd =>
    wakeOrReg_drop hd (h.parkedWake (hs.lastPending ▸ hp) (hs.streamDropped ▸ hsd))⟩
  rw [hs.txOpen, hs.readyQ]
  exact h.parked (hs.lastPending ▸ hp)

theorem score_sipoll {c : Cfg} (hc : GoodCfg c) {s : SState} (h : SCore c s) :
    SCore c (sipoll c true s).1 ∧ (sipoll c true s).1.streamDropped = s.streamDropped ∧
    ((sipoll c true s).1.lastPending = true ↔ (sipoll c true s).2.1 = .pending) ∧
    ((sipoll c true s).2.1 = .pending →
      (sipoll c true s).1.txOpen = true ∧ (sipoll c true s).1.readyQ = [] ∧
      (sipoll c true s).1.doneQ = [] ∧ (sipoll c true s).1.doneRxWaker = true) := by
  cases hpi : pollsInner c.strat s.im
  · have hne := pollNext_noInner (u := .pending) hpi
    rw [sipoll_outer c true s hpi]
    exact ⟨h.of_flags _ _ _ _ _, rfl, by simp, fun hp => absurd hp hne⟩
  · obtain ⟨d, hd, hso, hdq, _, hwk, heq⟩ := spoll_eq_drained hc h
    rw [sipoll_inner c true s hpi, heq]
    have hcore := score_sReadyHalf hd
    obtain ⟨f1, f2, _, _⟩ := sReadyHalf_facts d
    refine ⟨hcore.of_flags _ _ _ _ _, f1.trans hso.streamDropped, by simp, fun hp => ?_⟩
    have hu' : (sReadyHalf d).2 = .pending := underOf_pending (pollNext_pending hp).1
    obtain ⟨g1, g2, g3, g4, g5⟩ := f2 hu'
    exact ⟨g1, g2, g3.trans hdq, g4.trans (hwk g5)⟩

theorem sinv_step {c : Cfg} (hc : GoodCfg c) {s s' : SState} {a : SAction} (h : SInv c s)
    (hs : sstep? c true s a = some s') : SInv c s' := by
  cases a with
  | poll =>
    obtain ⟨_, rfl⟩ := sstep_poll_iff.mp hs
    obtain ⟨a1, _, a3, a4⟩ := score_sipoll hc h.core
    exact ⟨a1, fun hp => ⟨(a4 (a3.mp hp)).1, (a4 (a3.mp hp)).2.1⟩, fun hp _ => Or.inr (a4 (a3.mp hp)).2.2⟩
  | drop f => exact ⟨score_drop h.core hs, spark_drop h.park hs⟩
  | dropStream =>
    obtain ⟨_, rfl⟩ := sstep_dropStream_iff.mp hs
    have hcore := h.core
    exact ⟨{ hcore with droppedDone := fun hx => by cases hx }, h.park.parked, fun _ hx => by cases hx⟩
  | interrupt =>
    obtain rfl := sstep_interrupt_iff.mp hs
    have hcore := h.core
    exact ⟨hcore.of_flags _ _ _ _ _, h.park.parked, h.park.parkedWake⟩

theorem sinv_reachable {c : Cfg} (hc : GoodCfg c) {s : SState} (hr : SReachable c true s) : SInv c s := by
  induction hr with
  | init => exact ⟨score_init hc, spark_init c⟩
  | step a _ hs ih => exact sinv_step hc ih hs

def srun (c : Cfg) (drain : Bool) (s : SState) : List SAction → Option SState
  | [] => some s
  | a :: as => match sstep? c drain s a with
    | none => none
    | some s' => srun c drain s' as

theorem srun_isRun (c : Cfg) (drain : Bool) : IsRun (sstep? c drain) (srun c drain) :=
  ⟨fun _ => rfl, fun s a as => by rw [srun]; cases sstep? c drain s a <;> rfl⟩

theorem sreachable_srun {c : Cfg} {drain : Bool} {s : SState} (hr : SReachable c drain s)
    {as : List SAction} {s' : SState} (h : srun c drain s as = some s') : SReachable c drain s' :=
  (srun_isRun c drain).invariant (fun hr hs => .step _ hr hs) hr h

/-- some function is not yet yielded although the `FnRef`s of all its predecessors were dropped -/
def needsPoll (c : Cfg) (s : SState) : Prop :=
  ∃ v, v < c.n ∧ v ∉ s.yielded ∧ ∀ p ∈ parents c.D v, p ∈ s.droppedRefs

theorem not_needsPoll_iff {c : Cfg} {s : SState} : ¬ needsPoll c s ↔
    ∀ v, v < c.n → v ∉ s.yielded → ∃ p ∈ parents c.D v, p ∉ s.droppedRefs := by
  simp only [needsPoll, not_exists, not_and, not_forall, exists_prop]

theorem SCore.yield_after_ancestors {c : Cfg} {s : SState} (hi : SCore c s) {u v : Nat}
    (hv : v ∈ s.readyQ ∨ v ∈ s.yielded) (huv : ReachP c.D u v) : u ∈ s.droppedRefs ∧ u ∉ s.live :=
  have hd := hi.doneDropped u (Or.inl (hi.relCore.ancestors_released
    (fun x hx => hi.droppedYielded x (hi.doneDropped x (Or.inl hx))) hv huv))
  ⟨hd, fun hl => hi.liveNotDropped u hl hd⟩

theorem SCore.no_ancestor_live {c : Cfg} {s : SState} (hi : SCore c s) {u v : Nat} (hu : u ∈ s.live) (hv : v ∈ s.live) :
    ¬ ReachP c.D u v :=
  fun huv => (hi.yield_after_ancestors (Or.inr (hi.liveYielded v hv)) huv).2 hu

/-- a parked consumer that was not woken sits registered on an EMPTY done channel: everything dropped
    is released, so (`complete`) whatever has all predecessors dropped is queued or yielded — and
    nothing is queued -/
theorem SCore.no_lost_wakeup {c : Cfg} {s : SState} (hi : SCore c s) (hk : SPark s) (hd : s.streamDropped = false)
    (hp : s.lastPending = true) (hn : needsPoll c s) : s.wake = true := by
  rcases hk.parkedWake hp hd with hw | ⟨hq, _⟩
  · exact hw
  · exfalso
    obtain ⟨v, hv, hvy, hpar⟩ := hn
    obtain ⟨htx, hrq⟩ := hk.parked hp
    have hrel : ∀ p ∈ parents c.D v, p ∈ s.released := fun p hpm =>
      (hi.droppedDone hd p (hpar p hpm)).resolve_right (by rw [hq]; exact List.not_mem_nil)
    rcases hi.complete htx v hv hrel with h1 | h1
    · rw [hrq] at h1; cases h1
    · exact hvy h1

theorem SCore.parked_not_stalled {c : Cfg} {s : SState} (hi : SCore c s) (hk : SPark s) (hd : s.streamDropped = false)
    (hp : s.lastPending = true) :
    s.wake = true ∨ ∀ v, v < c.n → v ∉ s.yielded → ∃ p ∈ parents c.D v, p ∉ s.droppedRefs :=
  Classical.or_iff_not_imp_left.mpr fun hw =>
    not_needsPoll_iff.mp fun hn => hw (hi.no_lost_wakeup hk hd hp hn)

/-- diamond `0 → 1, 0 → 2, 1 → 3, 2 → 3` -/
def exDiamond_I : Cfg :=
  { D := { n := 4, edges := [⟨0, 1, .logic⟩, ⟨0, 2, .logic⟩, ⟨1, 3, .logic⟩, ⟨2, 3, .logic⟩] },
    counts0 := [0, 1, 1, 2] }

/-- join `0 → 2, 1 → 2` -/
def exJoin_I : Cfg :=
  { D := { n := 3, edges := [⟨0, 2, .logic⟩, ⟨1, 2, .logic⟩] }, counts0 := [0, 0, 2] }

theorem exDiamond_good_I : GoodCfg exDiamond_I := goodCfg_of_check (by decide)
theorem exJoin_good_I : GoodCfg exJoin_I := goodCfg_of_check (by decide)

/-- the state after the given actions from the initial state (`sinit` if some action is not enabled) -/
def exRun_I (c : Cfg) (drain : Bool) (as : List SAction) : SState := (srun c drain (sinit c) as).getD (sinit c)

theorem exRun_reachable_I {c : Cfg} {drain : Bool} {as : List SAction}
    (h : (srun c drain (sinit c) as).isSome = true) : SReachable c drain (exRun_I c drain as) :=
  (srun_isRun c drain).invariant_getD (fun hr hs => .step _ hr hs) .init h

end FG
