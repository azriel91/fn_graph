/-
  Proofs/Inv0Steps.lean — the sub-invariant `Inv0` of the run protocol (inductive under `GoodCfg` alone),
  its static consequences, and its preservation action by action; `finish f ok` in its three modes at
  once (`finW`).
-/
import FnGraphVerif.Proofs.ProtoStep
import FnGraphVerif.Proofs.RelCore
namespace FG

/-- All clauses of `Inv` that hold for EVERY configuration (also a non-sequential
    `shortCircuit` one, which no real API produces); the three clauses `short`, `sDoneInfl`,
    `retFrozen` of `Inv` appear in the weaker forms `short0`, `sDoneInfl0`, `ret0`. -/
structure Inv0 (c : Cfg) (s : PState) : Prop where
  cnt : ∀ v, s.counts[v]?.getD 0 = unreleased c.D s.released v
  cntLen : s.counts.length = c.n
  relNodup : (s.released ++ s.doneQ).Nodup
  doneEnded : ∀ x, x ∈ s.released ∨ x ∈ s.doneQ → x ∈ s.endedOk
  ready : ∀ v, (v ∈ s.readyQ ∨ v ∈ s.handedOut ∨ s.dropped = some v) → ∀ p ∈ parents c.D v, p ∈ s.released
  queueNodup : (s.readyQ ++ s.handedOut ++ s.dropped.toList).Nodup
  bound : ∀ v, (v ∈ s.readyQ ∨ v ∈ s.handedOut ∨ s.dropped = some v) → v < c.n
  inflHanded : ∀ f ∈ s.inflight, f ∈ s.handedOut
  inflNodup : s.inflight.Nodup
  endNodup : (s.endedOk ++ s.failed).Nodup
  inflNotEnded : ∀ f ∈ s.inflight, f ∉ s.endedOk ∧ f ∉ s.failed
  endedHanded : ∀ f, f ∈ s.endedOk ∨ f ∈ s.failed → f ∈ s.handedOut
  handedSplit : ∀ f ∈ s.handedOut, f ∈ s.inflight ∨ f ∈ s.endedOk ∨ f ∈ s.failed
  invHanded : ∀ f ∈ s.invoked, f ∈ s.handedOut
  invNodup : s.invoked.Nodup
  endedInvoked : ∀ f, f ∈ s.endedOk ∨ f ∈ s.failed → f ∈ s.invoked
  noPanic : s.panic = false
  qRem : s.qRemaining + s.released.length = c.n
  sRem : s.sRemaining + s.endedOk.length + (if c.errMode = .collect then s.failed.length else 0) = c.n
  errs : s.errors = (if c.errMode = .collect then s.failed else [])
  failedMode : c.errMode = .none → s.failed = []
  short0 : c.errMode = .shortCircuit → s.shortErr = none → s.failed = []
  shortOnly : s.shortErr.isSome = true → c.errMode = .shortCircuit
  shortDone : s.shortErr.isSome = true → s.sDone = true
  limSeq : c.sequential = true → s.inflight.length ≤ 1
  limPar : c.sequential = false → ∀ l, c.limit = some (l + 1) → s.inflight.length ≤ l + 1
  sDoneInfl0 : s.sDone = true → s.shortErr = none → s.inflight = []
  ret0 : ∀ r, s.result = some r → s.sDone = true ∧ s.qDone = true ∧ (s.shortErr = none → r = mkRet c s) ∧
    (∀ fin p np e, r = .outcome fin p np e → s.shortErr = none)

/-- `Inv0` does not read `im`, `closeAfter`, `streamEnded` or the three channel-end flags -/
theorem Inv0.irrel {c : Cfg} {s : PState} (h : Inv0 c s) (m : IM) (ca : Option Nat) (se rx tx dtx : Bool) :
    Inv0 c { s with im := m, closeAfter := ca, streamEnded := se, readyRxOpen := rx, readyTxOpen := tx,
                    doneTxOpen := dtx } := { h with }

variable {c : Cfg} {s s' : PState}

theorem Inv0.handed_lt (h : Inv0 c s) {f : Nat} (hf : f ∈ s.handedOut) : f < c.n :=
  h.bound f (Or.inr (Or.inl hf))

theorem Inv0.ended_lt (h : Inv0 c s) {f : Nat} (hf : f ∈ s.endedOk ++ s.failed) : f < c.n :=
  h.handed_lt (h.endedHanded f (List.mem_append.mp hf))

/-- an in-flight function is not yet among the ended ones, and all of them are nodes -/
theorem Inv0.ended_room (h : Inv0 c s) {f : Nat} (hf : f ∈ s.inflight) :
    s.endedOk.length + s.failed.length + 1 ≤ c.n := by
  have hne := h.inflNotEnded f hf
  have := nodup_cons_bounded_length (a := f) (n := c.n) h.endNodup
    (by simp only [List.mem_append]; exact fun h' => h'.elim hne.1 hne.2)
    (h.handed_lt (h.inflHanded f hf)) (fun x hx => h.ended_lt hx)
  simpa using this

theorem Inv0.sRem_pos (h : Inv0 c s) {f : Nat} (hf : f ∈ s.inflight) : 0 < s.sRemaining := by
  have h1 := h.ended_room hf
  have h2 := h.sRem
  split at h2 <;> omega

theorem Inv0.rel_lt (h : Inv0 c s) {x : Nat} (hx : x ∈ s.released ++ s.doneQ) : x < c.n :=
  h.handed_lt (h.endedHanded x (Or.inl (h.doneEnded x (List.mem_append.mp hx))))

theorem Inv0.infl_not_done (h : Inv0 c s) {f : Nat} (hf : f ∈ s.inflight) : f ∉ s.released ++ s.doneQ :=
  fun hx => (h.inflNotEnded f hf).1 (h.doneEnded f (List.mem_append.mp hx))

/-- an in-flight function has not sent its done id: the done channel has room -/
theorem Inv0.done_room (h : Inv0 c s) {f : Nat} (hf : f ∈ s.inflight) :
    s.released.length + s.doneQ.length + 1 ≤ c.n := by
  have := nodup_cons_bounded_length (a := f) (n := c.n) h.relNodup (h.infl_not_done hf)
    (h.handed_lt (h.inflHanded f hf)) (fun x hx => h.rel_lt hx)
  simpa using this

theorem Inv0.rel_len (h : Inv0 c s) : s.released.length + s.doneQ.length ≤ c.n := by
  have := nodup_bounded_length h.relNodup (n := c.n) (fun x hx => h.rel_lt hx)
  simpa using this

theorem Inv0.queue_len (hinv : Inv0 c s) :
    s.readyQ.length + s.handedOut.length + s.dropped.toList.length ≤ c.n := by
  have h := nodup_bounded_length hinv.queueNodup (n := c.n) (by
    intro x hx
    apply hinv.bound
    rcases List.mem_append.mp hx with hx | hx
    · rcases List.mem_append.mp hx with hx | hx
      · exact Or.inl hx
      · exact Or.inr (Or.inl hx)
    · exact Or.inr (Or.inr (Option.mem_toList.mp hx)))
  simpa [List.length_append, Nat.add_assoc] using h

theorem Inv0.failed_nodup (h : Inv0 c s) : s.failed.Nodup := (List.nodup_append.mp h.endNodup).2.1

theorem Inv0.head_not_handed (h : Inv0 c s) {f : Nat} {rest : List Nat} (hq : s.readyQ = f :: rest) :
    f ∉ rest ∧ f ∉ s.handedOut ∧ s.dropped ≠ some f := by
  have hnd := h.queueNodup
  rw [hq] at hnd
  simp only [List.cons_append, List.nodup_cons, List.mem_append, not_or] at hnd
  refine ⟨hnd.1.1.1, hnd.1.1.2, ?_⟩
  intro hd; rw [hd] at hnd; simp at hnd

theorem Inv0.released_lt (hinv : Inv0 c s) {y : Nat} (hy : y ∈ s.released) : y < c.n :=
  hinv.rel_lt (List.mem_append_left _ hy)

theorem Inv0.endedOk_lt (hinv : Inv0 c s) {y : Nat} (hy : y ∈ s.endedOk) : y < c.n :=
  hinv.ended_lt (List.mem_append_left _ hy)

theorem Inv0.released_nodup (hinv : Inv0 c s) : s.released.Nodup := hinv.relNodup.of_append_left

theorem Inv0.endedOk_nodup (hinv : Inv0 c s) : s.endedOk.Nodup := hinv.endNodup.of_append_left

theorem Inv0.handedOut_nodup (hinv : Inv0 c s) : s.handedOut.Nodup := by
  have := hinv.queueNodup
  rw [List.append_assoc] at this
  exact (List.nodup_append.mp (List.nodup_append.mp this).2.1).1

theorem Inv0.invoked_perm_handedOut (hinv : Inv0 c s) (hi : s.inflight = []) :
    s.invoked.Perm s.handedOut := by
  rw [List.perm_ext_iff_of_nodup hinv.invNodup hinv.handedOut_nodup]
  intro f
  constructor
  · exact hinv.invHanded f
  · intro hf
    rcases hinv.handedSplit f hf with h1 | h1
    · rw [hi] at h1; cases h1
    · exact hinv.endedInvoked f h1

theorem Inv0.readyQ_nodup (hinv : Inv0 c s) : s.readyQ.Nodup := by
  have := hinv.queueNodup
  rw [List.append_assoc] at this
  exact (List.nodup_append.mp this).1

theorem mem_out {s : PState} {v : Nat} :
    v ∈ s.handedOut ++ s.dropped.toList ↔ v ∈ s.handedOut ∨ s.dropped = some v := by
  simp [Option.mem_toList]

theorem Inv0.relCore (h : Inv0 c s) :
    RelCore c s.counts s.released s.readyQ (s.handedOut ++ s.dropped.toList) :=
  ⟨h.cnt, fun v hv => h.ready v (by rwa [mem_out] at hv), by rw [← List.append_assoc]; exact h.queueNodup,
   fun v hv => h.bound v (by rwa [mem_out] at hv)⟩

theorem Inv0.ancestors_ended (hinv : Inv0 c s) {u v : Nat}
    (hv : v ∈ s.readyQ ∨ v ∈ s.handedOut ∨ s.dropped = some v) (huv : ReachP c.D u v) :
    u ∈ s.endedOk :=
  hinv.doneEnded u (Or.inl (hinv.relCore.ancestors_released
    (fun x hx => List.mem_append_left _ (hinv.endedHanded x (Or.inl (hinv.doneEnded x (Or.inl hx)))))
    (hv.imp_right mem_out.mpr) huv))

theorem Inv0.no_successor_of_failed (hinv : Inv0 c s) {f v : Nat}
    (hf : f ∈ s.failed) (hfv : ReachP c.D f v) : v ∉ s.handedOut ∧ v ∉ s.readyQ := by
  have key : ∀ _ : (v ∈ s.readyQ ∨ v ∈ s.handedOut ∨ s.dropped = some v), False := fun hv =>
    (List.nodup_append.mp hinv.endNodup).2.2 f (hinv.ancestors_ended hv hfv) f hf rfl
  exact ⟨fun h => key (Or.inr (Or.inl h)), fun h => key (Or.inl h)⟩

/-- C07 read on the declarations: a function handed out and not yet started does not conflict with
    a failed one.  Ordered after the failed `y` it would never be handed out; ordered before it, it
    ended ok before `y` was handed out, so it was started. -/
theorem Inv0.failed_no_conflict_unstarted (hinv : Inv0 c s) (decls : List FnDecl)
    (hord : ∀ u v, u < c.n → v < c.n → u ≠ v → conflict (declOf decls u) (declOf decls v) = true →
      ReachP c.D u v ∨ ReachP c.D v u)
    {y f : Nat} (hy : y ∈ s.failed) (hf : f ∈ s.handedOut) (hf2 : f ∉ s.invoked) (hne : y ≠ f) :
    conflict (declOf decls y) (declOf decls f) = false := by
  cases hcf : conflict (declOf decls y) (declOf decls f) with
  | false => rfl
  | true =>
    have hyh : y ∈ s.handedOut := hinv.endedHanded y (Or.inr hy)
    rcases hord y f (hinv.handed_lt hyh) (hinv.handed_lt hf) hne hcf with h | h
    · exact ((hinv.no_successor_of_failed hy h).1 hf).elim
    · exact (hf2 (hinv.endedInvoked f (Or.inl (hinv.ancestors_ended (Or.inr (Or.inl hyh)) h)))).elim

/-- outside `collect` mode a failure short-circuits or cannot happen -/
theorem Inv0.failed_nil (hinv : Inv0 c s) (hm : c.errMode ≠ .collect) (hse : s.shortErr = none) :
    s.failed = [] := by
  cases hmode : c.errMode with
  | none => exact hinv.failedMode hmode
  | collect => exact absurd hmode hm
  | shortCircuit => exact hinv.short0 hmode hse

theorem Inv0.errors_eq_failed (hinv : Inv0 c s) (hse : s.shortErr = none) : s.errors = s.failed := by
  rw [hinv.errs]
  split
  · rfl
  · exact (hinv.failed_nil ‹_› hse).symm

/-- everything released ⇒ everything ended ⇒ the scheduler's counter is 0 -/
theorem Inv0.sRem_zero_of_qRem_zero (hinv : Inv0 c s) (h : s.qRemaining = 0) : s.sRemaining = 0 := by
  have h1 := hinv.qRem
  have h2 := hinv.sRem
  have hsub : s.released ⊆ s.endedOk := fun y hy => hinv.doneEnded y (Or.inl hy)
  have h3 := List.Nodup.length_le_of_subset hinv.released_nodup hsub
  omega

theorem Inv0.all_ended (hinv : Inv0 c s) (h : s.sRemaining = 0) (hf : s.failed = []) {v : Nat} (hv : v < c.n) :
    v ∈ s.endedOk := by
  have h2 := hinv.sRem
  rw [hf] at h2
  simp only [List.length_nil, ite_self, Nat.add_zero] at h2
  exact mem_of_nodup_full hinv.endedOk_nodup (fun x hx => hinv.endedOk_lt hx) (by omega) hv

/-- a short-circuit error only occurs in `shortCircuit` mode and finishes the scheduler for good -/
theorem Inv0.shortErr_some (hinv : Inv0 c s) {f : Nat} (hf : s.shortErr = some f) :
    c.errMode = .shortCircuit ∧ s.sDone = true ∧ step? c s .schedPoll = none :=
  have hsome : s.shortErr.isSome = true := by rw [hf]; rfl
  ⟨hinv.shortOnly hsome, hinv.shortDone hsome, step_schedPoll_none_of_sDone (hinv.shortDone hsome)⟩

/-- the done id at the head of the done channel is not yet released, and folding it keeps the
    release core and does not underflow the queuer's counter -/
theorem Inv0.release_head (hc : GoodCfg c) (hinv : Inv0 c s) {x : Nat} {rest : List Nat}
    (hd : s.doneQ = x :: rest) (cs : Bool) :
    x ∉ s.released ∧ (s.released ++ x :: rest).Nodup ∧ 0 < s.qRemaining ∧
    RelCore c (relFold cs c.cap (s.counts, s.readyQ, s.panic || s.qRemaining == 0) (children c.D x)).1
      (s.released ++ [x])
      (relFold cs c.cap (s.counts, s.readyQ, s.panic || s.qRemaining == 0) (children c.D x)).2.1
      (s.handedOut ++ s.dropped.toList) ∧
    (relFold cs c.cap (s.counts, s.readyQ, s.panic || s.qRemaining == 0) (children c.D x)).2.2 = false ∧
    (relFold cs c.cap (s.counts, s.readyQ, s.panic || s.qRemaining == 0) (children c.D x)).2.1 =
      s.readyQ ++ (children c.D x).filter (fun ch => cs && unreleased c.D (s.released ++ [x]) ch == 0) := by
  have hnd := hinv.relNodup
  have hlen := hinv.rel_len
  have hqr := hinv.qRem
  rw [hd] at hnd
  rw [hd, List.length_cons] at hlen
  have hxrel : x ∉ s.released := fun hx => (List.nodup_append.mp hnd).2.2 x hx x (by simp) rfl
  have hpos : 0 < s.qRemaining := by omega
  have hpan : (s.panic || s.qRemaining == 0) = false := by
    rw [hinv.noPanic, Bool.false_or, beq_eq_false_iff_ne]; omega
  exact ⟨hxrel, hnd, hpos, hinv.relCore.release hc hxrel cs hpan⟩

theorem inv0_queuerRecv (hc : GoodCfg c) (hinv : Inv0 c s) (h : step? c s .queuerRecv = some s') :
    Inv0 c s' := by
  obtain ⟨_, _, x, rest, hd, rfl⟩ := step_queuerRecv_iff.mp h
  unfold qrApply
  have hqr := hinv.qRem
  obtain ⟨_, hnd, hpos, hcore, hnp, _⟩ := hinv.release_head hc hd
    ((s.readyTxOpen && s.qRemaining - 1 != 0) && s.readyRxOpen)
  exact { hinv with
    cnt := hcore.cnt
    cntLen := by simp only [relFold_counts_length]; exact hinv.cntLen
    relNodup := by simp only [List.append_assoc]; exact hnd
    doneEnded := by
      intro y hy
      apply hinv.doneEnded
      rw [hd]
      simp only [List.mem_append, List.mem_cons, List.not_mem_nil, or_false] at hy ⊢
      exact or_assoc.mp hy
    ready := fun v hv => hcore.ready v (by rwa [mem_out])
    queueNodup := by rw [List.append_assoc]; exact hcore.queueNodup
    bound := fun v hv => hcore.bound v (by rwa [mem_out])
    noPanic := hnp
    qRem := by simp only [List.length_append, List.length_singleton]; omega }

theorem inv0_queuerEnd (hinv : Inv0 c s) (h : step? c s .queuerEnd = some s') : Inv0 c s' := by
  obtain ⟨_, _, _, rfl⟩ := step_queuerEnd_iff.mp h
  exact { hinv with
    ret0 := fun r hr => ⟨(hinv.ret0 r hr).1, rfl, (hinv.ret0 r hr).2.2⟩ }

theorem inv0_handOut (hinv : Inv0 c s) {f : Nat} {rest : List Nat} (hq : s.readyQ = f :: rest)
    (hsd : s.sDone = false) (hu : underLimit c s = true) (m : IM) (ca : Option Nat) :
    Inv0 c { handOut c { s with im := m } f rest with closeAfter := ca } := by
  -- The head moves from `readyQ` to `handedOut` and `inflight`: what is queued or handed out is the
  -- same set (`hmem`), and `f` is new everywhere else (`head_not_handed`).  `m` and `ca` are
  -- arbitrary since `Inv0` reads neither.
  obtain ⟨hfr, hfh, hfd⟩ := hinv.head_not_handed hq
  have hfi : f ∉ s.inflight := fun h => hfh (hinv.inflHanded f h)
  have hfe : f ∉ s.endedOk ∧ f ∉ s.failed :=
    ⟨fun h => hfh (hinv.endedHanded f (Or.inl h)), fun h => hfh (hinv.endedHanded f (Or.inr h))⟩
  have hmem : ∀ v, (v ∈ rest ∨ v ∈ s.handedOut ++ [f] ∨ s.dropped = some v) →
      (v ∈ s.readyQ ∨ v ∈ s.handedOut ∨ s.dropped = some v) := by
    intro v hv
    rw [hq]
    simp only [List.mem_append, List.mem_cons, List.not_mem_nil, or_false] at hv ⊢
    rcases hv with h | (h | h) | h
    · exact Or.inl (Or.inr h)
    · exact Or.inr (Or.inl h)
    · exact Or.inl (Or.inl h)
    · exact Or.inr (Or.inr h)
  unfold handOut
  exact { hinv with
    ready := fun v hv => hinv.ready v (hmem v hv)
    bound := fun v hv => hinv.bound v (hmem v hv)
    queueNodup := by
      have hqn := hinv.queueNodup
      rw [hq] at hqn
      have e : rest ++ (s.handedOut ++ [f]) ++ s.dropped.toList
          = (rest ++ s.handedOut) ++ f :: s.dropped.toList := by simp
      show (rest ++ (s.handedOut ++ [f]) ++ s.dropped.toList).Nodup
      rw [e, List.Perm.nodup_iff List.perm_middle]
      simpa using hqn
    inflHanded := by
      intro g hg
      simp only [List.mem_append, List.mem_singleton] at hg ⊢
      rcases hg with hg | hg
      · exact Or.inl (hinv.inflHanded g hg)
      · exact Or.inr hg
    inflNodup := nodup_append_singleton.mpr ⟨hinv.inflNodup, hfi⟩
    inflNotEnded := by
      intro g hg
      simp only [List.mem_append, List.mem_singleton] at hg
      rcases hg with hg | rfl
      · exact hinv.inflNotEnded g hg
      · exact hfe
    endedHanded := fun g hg => List.mem_append.mpr (Or.inl (hinv.endedHanded g hg))
    handedSplit := by
      intro g hg
      simp only [List.mem_append, List.mem_singleton] at hg ⊢
      rcases hg with hg | hg
      · rcases hinv.handedSplit g hg with h | h
        · exact Or.inl (Or.inl h)
        · exact Or.inr h
      · exact Or.inl (Or.inr hg)
    invHanded := fun g hg => List.mem_append.mpr (Or.inl (hinv.invHanded g hg))
    noPanic := by
      show (s.panic || (c.isMut && decide (f ∈ s.inflight))) = false
      simp [hinv.noPanic, hfi]
    limSeq := by
      intro hs
      have := (underLimit_seq_iff hs).mp hu
      show (s.inflight ++ [f]).length ≤ 1
      simp [this]
    limPar := by
      intro hs l hl
      have := (underLimit_par_iff hs hl).mp hu
      show (s.inflight ++ [f]).length ≤ l + 1
      simp only [List.length_append, List.length_singleton]; omega
    sDoneInfl0 := by
      intro h; exact absurd (show s.sDone = true from h) (by simp [hsd])
    ret0 := by
      intro r hr
      have := (hinv.ret0 r hr).1
      rw [hsd] at this; cases this }

theorem inv0_dropOut (hinv : Inv0 c s) {f : Nat} {rest : List Nat} (hq : s.readyQ = f :: rest) (m : IM) :
    Inv0 c { s with im := m, readyQ := rest, dropped := some f, doneTxOpen := false } := by
  have hmem : ∀ v, (v ∈ rest ∨ v ∈ s.handedOut ∨ some f = some v) →
      (v ∈ s.readyQ ∨ v ∈ s.handedOut ∨ s.dropped = some v) := by
    intro v hv
    rw [hq]
    simp only [List.mem_cons, Option.some.injEq] at hv ⊢
    rcases hv with h | h | h
    · exact Or.inl (Or.inr h)
    · exact Or.inr (Or.inl h)
    · exact Or.inl (Or.inl h.symm)
  exact { hinv with
    ready := fun v hv => hinv.ready v (hmem v hv)
    bound := fun v hv => hinv.bound v (hmem v hv)
    queueNodup := by
      have hqn := hinv.queueNodup
      rw [hq] at hqn
      have h1 : (f :: (rest ++ s.handedOut)).Nodup := by
        have := (List.nodup_append.mp hqn).1
        simpa using this
      show (rest ++ s.handedOut ++ [f]).Nodup
      exact nodup_append_singleton.mpr ⟨(List.nodup_cons.mp h1).2, (List.nodup_cons.mp h1).1⟩ }

theorem inv0_schedPoll (hinv : Inv0 c s) (h : step? c s .schedPoll = some s') : Inv0 c s' := by
  obtain ⟨hsd, hu, h | h | h⟩ := schedPoll_shapes h
  · obtain ⟨m, se, rx, dtx, rfl⟩ := h
    exact { hinv with }
  · obtain ⟨m, ca, f, rest, hq, rfl⟩ := h
    exact inv0_handOut hinv hq hsd hu m ca
  · obtain ⟨m, f, rest, hq, rfl⟩ := h
    exact inv0_dropOut hinv hq m

theorem inv0_invoke (hinv : Inv0 c s) {f : Nat} (h : step? c s (.invoke f) = some s') : Inv0 c s' := by
  obtain ⟨hf, hfn, rfl⟩ := step_invoke_iff.mp h
  exact { hinv with
    invHanded := by
      intro g hg'
      simp only [List.mem_append, List.mem_singleton] at hg'
      rcases hg' with hg' | rfl
      · exact hinv.invHanded g hg'
      · exact hinv.inflHanded g hf
    invNodup := nodup_append_singleton.mpr ⟨hinv.invNodup, hfn⟩
    endedInvoked := fun g hg' => List.mem_append.mpr (Or.inl (hinv.endedInvoked g hg')) }

theorem inv0_interrupt (hinv : Inv0 c s) (h : step? c s .interrupt = some s') : Inv0 c s' := by
  cases step_interrupt_iff.mp h
  exact { hinv with }

theorem inv0_schedEnd (hinv : Inv0 c s) (h : step? c s .schedEnd = some s') : Inv0 c s' := by
  obtain ⟨_, hi, _, rfl⟩ := step_schedEnd_iff.mp h
  exact { hinv with
    shortDone := fun _ => rfl
    sDoneInfl0 := fun _ _ => hi
    ret0 := fun r hr => ⟨rfl, (hinv.ret0 r hr).2⟩ }

theorem inv0_ret (hinv : Inv0 c s) (h : step? c s .ret = some s') : Inv0 c s' := by
  obtain ⟨hsd, hqd, _, rfl⟩ := step_ret_iff.mp h
  exact { hinv with
    ret0 := fun r hr => by
      cases hr
      exact ⟨hsd, hqd, fun _ => rfl, fun fin p np e he => mkRet_outcome he⟩ }

/-- something still in flight after the return: the call short-circuited (a run that is not `ApiOk`) -/
theorem Inv0.inflight_after_ret (h : Inv0 c s) {f : Nat} (hf : f ∈ s.inflight) (r : Ret) (hr : s.result = some r) :
    s.sDone = true ∧ s.qDone = true ∧ s.shortErr ≠ none ∧ (∀ fin p np e, r ≠ .outcome fin p np e) := by
  obtain ⟨h1, h2, _, h4⟩ := h.ret0 r hr
  have hne : s.shortErr ≠ none := by
    intro hn
    have := h.sDoneInfl0 h1 hn
    rw [this] at hf; cases hf
  exact ⟨h1, h2, hne, fun fin p np e he => hne (h4 fin p np e he)⟩

/-- the scheduler's counter falls by one as one of the counted lists grows by one -/
theorem counter_step {r e k n : Nat} (hpos : 0 < r) (h : r + e + k = n) :
    r - 1 + (e + 1) + k = n ∧ r - 1 + e + (k + 1) = n := by omega

/-- `finish f ok` moves `f` from `inflight` to `endedOk` or to `failed`; everything the modes differ
    in (counter, channels, `shortErr`) is dealt with clause by clause -/
theorem inv0_finish (hinv : Inv0 c s) {f : Nat} {ok : Bool} (h : step? c s (.finish f ok) = some s') :
    Inv0 c s' := by
  obtain ⟨⟨hf, hfi, ha⟩, rfl⟩ := step_finish_iff.mp h
  have hne := hinv.inflNotEnded f hf
  have hpos := hinv.sRem_pos hf
  have hcap := c.n_le_cap
  have hmem : ∀ g, (g ∈ (finW c s f ok).endedOk ∨ g ∈ (finW c s f ok).failed) ↔
      ((g ∈ s.endedOk ∨ g ∈ s.failed) ∨ g = f) := by
    intro g
    cases ok with
    | false =>
      show g ∈ s.endedOk ∨ g ∈ s.failed ++ [f] ↔ _
      rw [List.mem_append, List.mem_singleton, or_assoc]
    | true =>
      show g ∈ s.endedOk ++ [f] ∨ g ∈ s.failed ↔ _
      rw [List.mem_append, List.mem_singleton, or_right_comm]
  have hfe : f ∉ s.endedOk ++ s.failed := by
    simp only [List.mem_append]; exact fun h' => h'.elim hne.1 hne.2
  have hshort := finW_short_cases (c := c) (s := s) (f := f) (ok := ok)
  exact { hinv with
    relNodup := by
      show (s.released ++ (if _ then s.doneQ ++ [f] else s.doneQ)).Nodup
      split
      · rw [← List.append_assoc]; exact nodup_append_singleton.mpr ⟨hinv.relNodup, hinv.infl_not_done hf⟩
      · exact hinv.relNodup
    doneEnded := by
      intro x hx
      cases ok with
      | false => exact hinv.doneEnded x hx
      | true =>
        show x ∈ s.endedOk ++ [f]
        have hx' : x ∈ s.released ∨ x ∈ (if _ then s.doneQ ++ [f] else s.doneQ) := hx
        rw [List.mem_append, List.mem_singleton]
        rcases hx' with hx' | hx'
        · exact .inl (hinv.doneEnded x (.inl hx'))
        · split at hx'
          · rw [List.mem_append, List.mem_singleton] at hx'
            exact hx'.imp (fun h => hinv.doneEnded x (.inr h)) id
          · exact .inl (hinv.doneEnded x (.inr hx'))
    inflHanded := fun g hg => hinv.inflHanded g (List.mem_of_mem_erase hg)
    inflNodup := hinv.inflNodup.erase f
    endNodup := by
      cases ok with
      | false =>
        show (s.endedOk ++ (s.failed ++ [f])).Nodup
        rw [← List.append_assoc]; exact nodup_append_singleton.mpr ⟨hinv.endNodup, hfe⟩
      | true =>
        show (s.endedOk ++ [f] ++ s.failed).Nodup
        rw [List.append_assoc, List.singleton_append, List.Perm.nodup_iff List.perm_middle, List.nodup_cons]
        exact ⟨hfe, hinv.endNodup⟩
    inflNotEnded := by
      intro g hg
      obtain ⟨hgf, hgi⟩ := hinv.inflNodup.mem_erase_iff.mp hg
      have hg' := hinv.inflNotEnded g hgi
      have hn : ¬ (g ∈ (finW c s f ok).endedOk ∨ g ∈ (finW c s f ok).failed) := fun h' =>
        ((hmem g).mp h').elim (fun h'' => h''.elim hg'.1 hg'.2) hgf
      exact ⟨fun h' => hn (.inl h'), fun h' => hn (.inr h')⟩
    endedHanded := fun g hg =>
      ((hmem g).mp hg).elim (hinv.endedHanded g) (fun e => e ▸ hinv.inflHanded f hf)
    handedSplit := by
      intro g hg
      by_cases hgf : g = f
      · exact .inr ((hmem g).mpr (.inr hgf))
      · exact (hinv.handedSplit g hg).imp (fun h' => hinv.inflNodup.mem_erase_iff.mpr ⟨hgf, h'⟩) (fun h' => (hmem g).mpr (.inl h'))
    endedInvoked := fun g hg => ((hmem g).mp hg).elim (hinv.endedInvoked g) (fun e => e ▸ hfi)
    noPanic := by
      have h1 : (s.sRemaining == 0) = false := beq_eq_false_iff_ne.mpr (Nat.ne_of_gt hpos)
      have h2 : decide (c.cap ≤ s.doneQ.length) = false := by
        have := hinv.done_room hf
        rw [decide_eq_false_iff_not]; omega
      have h3 : c.errMode = .collect → decide (c.cap ≤ s.errors.length) = false := by
        intro hm
        have := hinv.ended_room hf
        rw [decide_eq_false_iff_not, hinv.errs, if_pos hm]; omega
      show (s.panic || _ || _ || _) = false
      by_cases hm : c.errMode = .collect
      · simp [hinv.noPanic, h1, h2, h3 hm]
      · simp [hinv.noPanic, h1, h2, hm]
    sRem := by
      have := hinv.sRem
      cases ok with
      | true =>
        show s.sRemaining - 1 + (s.endedOk ++ [f]).length +
          (if c.errMode = .collect then s.failed.length else 0) = c.n
        rw [List.length_append, List.length_singleton]; exact (counter_step hpos this).1
      | false =>
        -- a failure counts iff errors are collected
        show (if (false || decide (c.errMode = .collect)) = true then s.sRemaining - 1 else s.sRemaining) +
          s.endedOk.length + (if c.errMode = .collect then (s.failed ++ [f]).length else 0) = c.n
        by_cases hm : c.errMode = .collect
        · rw [if_pos hm] at this ⊢
          rw [if_pos (by simp [hm]), List.length_append, List.length_singleton]
          exact (counter_step hpos this).2
        · rw [if_neg hm] at this ⊢
          rw [if_neg (by simp [hm])]; exact this
    errs := by
      cases ok with
      | true => exact hinv.errs
      | false =>
        have := hinv.errs
        show (if (!false && decide (c.errMode = .collect)) = true then s.errors ++ [f] else s.errors) =
          if c.errMode = .collect then s.failed ++ [f] else []
        by_cases hm : c.errMode = .collect
        · rw [if_pos hm] at this ⊢
          rw [if_pos (by simp [hm]), this]
        · rw [if_neg hm] at this ⊢
          rw [if_neg (by simp [hm])]; exact this
    failedMode := by
      intro hm
      cases ok with
      | true => exact hinv.failedMode hm
      | false => simp [finAllowed, hm] at ha
    short0 := by
      intro hm hn
      rcases hshort with ⟨h1, _⟩ | ⟨h1, _⟩
      · rw [h1] at hn; cases hn
      · cases ok with
        | true => exact hinv.short0 hm (h1 ▸ hn)
        | false =>
          have : (finW c s f false).shortErr = some f := by
            rw [finW_shortErr, if_pos (by simp [finShort, hm])]
          rw [this] at hn; cases hn
    shortOnly := by
      intro hs
      rcases hshort with ⟨_, hm, _⟩ | ⟨h1, _⟩
      · exact hm
      · exact hinv.shortOnly (h1 ▸ hs)
    shortDone := by
      intro hs
      rcases hshort with ⟨_, _, hd⟩ | ⟨h1, h2⟩
      · exact hd
      · rw [h2]; exact hinv.shortDone (h1 ▸ hs)
    limSeq := fun hs => Nat.le_trans List.length_erase_le (hinv.limSeq hs)
    limPar := fun hs l hl => Nat.le_trans List.length_erase_le (hinv.limPar hs l hl)
    sDoneInfl0 := by
      intro hd hn
      rcases hshort with ⟨h1, _⟩ | ⟨h1, h2⟩
      · rw [h1] at hn; cases hn
      · have := hinv.sDoneInfl0 (h2 ▸ hd) (h1 ▸ hn)
        rw [this] at hf; cases hf
    ret0 := by
      intro r hr
      obtain ⟨h1, h2, h3, h4⟩ := hinv.inflight_after_ret hf r hr
      have hn : (finW c s f ok).shortErr ≠ none := by
        rcases hshort with ⟨e, _⟩ | ⟨e, _⟩
        · rw [e]; simp
        · rw [e]; exact h3
      exact ⟨by show (s.sDone || _) = true; rw [h1]; rfl, h2, fun h' => absurd h' hn,
        fun fin p np e he => absurd he (h4 fin p np e)⟩ }

end FG
