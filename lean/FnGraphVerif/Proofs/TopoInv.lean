/-
  Proofs/TopoInv.lean — loop invariant of petgraph's `Topo` (Kahn's algorithm with a stack);
  at loop exit every node is ordered, by induction along the edges (`parents_induction`).
-/
import FnGraphVerif.Proofs.Fwd
import FnGraphVerif.Proofs.SortByRank
namespace FG

theorem exists_numbering {g : Dag} (hwf : WF g) (hac : Acyclic g) :
    ∃ num : Nat → Nat, ∀ u v, IsEdge g u v → num u < num v :=
  (acyclic_iff_exists_fwd hwf).mp hac

/-- the invariant of `Topo` with order `ord` so far and stack `st` (petgraph's `tovisit`).
    `ready` is Kahn's invariant: every unordered node whose parents are all ordered is on the stack. -/
structure TopoInv (g : Dag) (ord st : List Nat) : Prop where
  nodup : ord.Nodup
  bound : ∀ x ∈ ord, x < g.n
  edges : ∀ u v, IsEdge g u v → v ∈ ord → u ∈ ord ∧ idxOf ord u < idxOf ord v
  stack : ∀ x ∈ st, x < g.n ∧ ∀ p, IsEdge g p x → p ∈ ord
  ready : ∀ v, v < g.n → v ∉ ord → (∀ p, IsEdge g p v → p ∈ ord) → v ∈ st

theorem parents_all_mem_iff {g : Dag} {ord : List Nat} {c : Nat} :
    (parents g c).all (fun p => decide (p ∈ ord)) = true ↔ ∀ p, IsEdge g p c → p ∈ ord := by
  simp only [List.all_eq_true, decide_eq_true_eq]
  exact ⟨fun h p hp => h p (mem_parents.mpr hp), fun h p hp => h p (mem_parents.mp hp)⟩

theorem topoPush_ready {g : Dag} {ord st : List Nat} {c : Nat} (h : ∀ p, IsEdge g p c → p ∈ ord) :
    topoPush g ord st c = c :: st := if_pos (parents_all_mem_iff.mpr h)

theorem topoPush_not_ready {g : Dag} {ord st : List Nat} {c : Nat} (h : ¬ ∀ p, IsEdge g p c → p ∈ ord) :
    topoPush g ord st c = st := if_neg fun h' => h (parents_all_mem_iff.mp h')

theorem mem_foldl_topoPush {g : Dag} {ord : List Nat} (cs st : List Nat) (y : Nat) :
    y ∈ cs.foldl (topoPush g ord) st ↔ y ∈ st ∨ (y ∈ cs ∧ ∀ p, IsEdge g p y → p ∈ ord) := by
  induction cs generalizing st with
  | nil => simp
  | cons c cs ih =>
    rw [List.foldl_cons, ih, List.mem_cons]
    by_cases hc : ∀ p, IsEdge g p c → p ∈ ord
    · rw [topoPush_ready hc, List.mem_cons]
      constructor
      · rintro ((rfl | h) | h)
        · exact Or.inr ⟨Or.inl rfl, hc⟩
        · exact Or.inl h
        · exact Or.inr ⟨Or.inr h.1, h.2⟩
      · rintro (h | ⟨rfl | h, h2⟩)
        · exact Or.inl (Or.inr h)
        · exact Or.inl (Or.inl rfl)
        · exact Or.inr ⟨h, h2⟩
    · rw [topoPush_not_ready hc]
      constructor
      · rintro (h | h)
        · exact Or.inl h
        · exact Or.inr ⟨Or.inr h.1, h.2⟩
      · rintro (h | ⟨rfl | h, h2⟩)
        · exact Or.inl h
        · exact absurd h2 hc
        · exact Or.inr ⟨h, h2⟩

theorem topoNext_cons_visited {g : Dag} {ord rest : List Nat} {a : Nat} (ha : a ∈ ord) :
    topoNext g ord (a :: rest) = topoNext g ord rest := by
  rw [topoNext, if_pos ha]

theorem topoNext_cons_fresh {g : Dag} {ord rest : List Nat} {a : Nat} (ha : a ∉ ord) :
    topoNext g ord (a :: rest) =
      some (a, ord ++ [a], (children g a).foldl (topoPush g (ord ++ [a])) rest) := by
  rw [topoNext, if_neg ha]

/-- popping a node that is already ordered -/
theorem TopoInv.skip {g : Dag} {ord rest : List Nat} {a : Nat} (hinv : TopoInv g ord (a :: rest))
    (ha : a ∈ ord) : TopoInv g ord rest :=
  { hinv with
    stack := fun y hy => hinv.stack y (List.mem_cons_of_mem _ hy)
    ready := fun v hv hvo hp => (List.mem_cons.mp (hinv.ready v hv hvo hp)).resolve_left
      fun h => hvo (h ▸ ha) }

/-- visiting the top of the stack: it goes last in the order, and its children that have become
    ready are pushed -/
theorem TopoInv.visit {g : Dag} (hwf : WF g) {ord rest : List Nat} {a : Nat}
    (hinv : TopoInv g ord (a :: rest)) (ha : a ∉ ord) :
    TopoInv g (ord ++ [a]) ((children g a).foldl (topoPush g (ord ++ [a])) rest) where
  nodup := nodup_append_singleton.mpr ⟨hinv.nodup, ha⟩
  bound := fun y hy => (List.mem_append.mp hy).elim (hinv.bound y)
    fun h => List.mem_singleton.mp h ▸ (hinv.stack a List.mem_cons_self).1
  edges := by
    -- the parents of `a` are ordered because `a` was on the stack
    intro u v he hv
    rcases List.mem_append.mp hv with h | h
    · have := hinv.edges u v he h
      refine ⟨List.mem_append_left _ this.1, ?_⟩
      rw [idxOf_append_left _ this.1, idxOf_append_left _ h]; exact this.2
    · obtain rfl := List.mem_singleton.mp h
      have hu := (hinv.stack v List.mem_cons_self).2 u he
      refine ⟨List.mem_append_left _ hu, ?_⟩
      rw [idxOf_append_cons_self ha, idxOf_append_left _ hu]
      exact idxOf_lt_length hu
  stack := by
    intro y hy
    rcases (mem_foldl_topoPush _ _ _).mp hy with h | ⟨h1, h2⟩
    · have := hinv.stack y (List.mem_cons_of_mem _ h)
      exact ⟨this.1, fun p hp => List.mem_append_left _ (this.2 p hp)⟩
    · exact ⟨((mem_children.mp h1).lt hwf).2, h2⟩
  ready := by
    -- `v` was ready before (then it is on the stack, below `a`), or its last missing parent is `a`
    -- (then it is a child of `a`, and `topoPush` pushes it)
    intro v hv hvo hp
    rw [mem_foldl_topoPush]
    have hvo1 : v ∉ ord := fun hh => hvo (List.mem_append_left _ hh)
    have hva : v ≠ a := fun hh => hvo (List.mem_append_right _ (List.mem_singleton.mpr hh))
    by_cases hall : ∀ p, IsEdge g p v → p ∈ ord
    · exact Or.inl ((List.mem_cons.mp (hinv.ready v hv hvo1 hall)).resolve_left hva)
    · simp only [not_forall] at hall
      obtain ⟨p, hpe, hpo⟩ := hall
      obtain rfl : p = a := List.mem_singleton.mp ((List.mem_append.mp (hp p hpe)).resolve_left hpo)
      exact Or.inr ⟨mem_children.mpr hpe, hp⟩

theorem topoInv_step {g : Dag} (hwf : WF g) {ord : List Nat} : ∀ st, TopoInv g ord st →
    ∀ x ord' st', topoNext g ord st = some (x, ord', st') →
      TopoInv g ord' st' ∧ ord'.length = ord.length + 1 := by
  intro st
  induction st with
  | nil => intro _ x ord' st' h; cases h
  | cons a rest ih =>
    intro hinv x ord' st' h
    by_cases ha : a ∈ ord
    · exact ih (hinv.skip ha) x ord' st' (topoNext_cons_visited ha ▸ h)
    · obtain ⟨rfl, rfl, rfl⟩ : a = x ∧ ord ++ [a] = ord' ∧ _ = st' := by
        simpa using (topoNext_cons_fresh ha).symm.trans h
      exact ⟨hinv.visit hwf ha, by simp⟩

theorem topoNext_none {g : Dag} {ord : List Nat} : ∀ st, topoNext g ord st = none → ∀ x ∈ st, x ∈ ord := by
  intro st
  induction st with
  | nil => intro _ x hx; cases hx
  | cons a rest ih =>
    intro h x hx
    by_cases ha : a ∈ ord
    · rw [topoNext_cons_visited ha] at h
      rcases List.mem_cons.mp hx with rfl | hx
      exacts [ha, ih h x hx]
    · rw [topoNext_cons_fresh ha] at h; cases h

theorem topoAll_inv {g : Dag} (hwf : WF g) : ∀ fuel ord st, TopoInv g ord st →
    g.n + 1 ≤ ord.length + fuel →
    ∃ st', TopoInv g (topoAll g fuel ord st) st' ∧ ∀ x ∈ st', x ∈ topoAll g fuel ord st := by
  intro fuel
  induction fuel with
  | zero =>
    intro ord st hinv hf
    have := nodup_bounded_length hinv.nodup hinv.bound
    omega
  | succ k ih =>
    intro ord st hinv hf
    unfold topoAll
    cases hn : topoNext g ord st with
    | none => exact ⟨st, hinv, topoNext_none st hn⟩
    | some r =>
      obtain ⟨x, ord', st'⟩ := r
      obtain ⟨hinv', hlen⟩ := topoInv_step hwf st hinv x ord' st' hn
      exact ih ord' st' hinv' (by omega)

theorem topoInv_complete {g : Dag} (hwf : WF g) (hac : Acyclic g) {ord st : List Nat}
    (hinv : TopoInv g ord st) (hst : ∀ x ∈ st, x ∈ ord) : ∀ v, v < g.n → v ∈ ord :=
  parents_induction hwf hac (· ∈ ord) fun v hv ih =>
    Classical.byContradiction fun hvo =>
      hvo (hst v (hinv.ready v hv hvo fun p hp => ih p (mem_parents.mpr hp)))

theorem topoInv_init (g : Dag) : TopoInv g [] (roots g).reverse :=
  ⟨List.nodup_nil, by simp, by simp,
    fun x hx => by
      obtain ⟨h1, h2⟩ := mem_roots.mp (List.mem_reverse.mp hx)
      exact ⟨h1, fun p hp => absurd hp (h2 p)⟩,
    fun v hv _ hp => List.mem_reverse.mpr (mem_roots.mpr ⟨hv, fun p he => List.not_mem_nil (hp p he)⟩)⟩

theorem topo_inv {g : Dag} (hwf : WF g) (hac : Acyclic g) :
    ∃ st, TopoInv g (topo g) st ∧ ∀ v, v < g.n → v ∈ topo g := by
  obtain ⟨st', hinv, hst⟩ := topoAll_inv hwf (g.n + 1) [] (roots g).reverse (topoInv_init g) (by simp)
  exact ⟨st', hinv, topoInv_complete hwf hac hinv hst⟩

end FG
