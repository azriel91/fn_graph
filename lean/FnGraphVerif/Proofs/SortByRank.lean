/-
  Proofs/SortByRank.lean — the stable insertion sort of `augment` (`sortByRank`) and positions
  (`idxOf`) in a duplicate-free list.
-/
import FnGraphVerif.Proofs.ListFacts
import FnGraphVerif.Model.Spec
namespace FG

/-- rank first, insertion order at equal rank -/
def rlt (rk : Nat → Nat) (u v : Nat) : Prop := rk u < rk v ∨ (rk u = rk v ∧ u < v)

/-- the Boolean form in which `Model/Spec.lean` writes `rlt` -/
theorem decide_rlt_iff {rk : Nat → Nat} {u v : Nat} :
    (decide (rk u < rk v) || (rk u == rk v && decide (u < v))) = true ↔ rlt rk u v := by
  rw [Bool.or_eq_true, Bool.and_eq_true, decide_eq_true_iff, decide_eq_true_iff, beq_iff_eq]; rfl

theorem rlt_trans {rk : Nat → Nat} {a b c : Nat} (h1 : rlt rk a b) (h2 : rlt rk b c) : rlt rk a c := by
  unfold rlt at *; omega

theorem rlt_asymm {rk : Nat → Nat} {a b : Nat} (h : rlt rk a b) : ¬ rlt rk b a := by
  unfold rlt at *; omega

theorem rlt_total {rk : Nat → Nat} {a b : Nat} (h : a ≠ b) : rlt rk a b ∨ rlt rk b a := by
  unfold rlt; omega

theorem insertByRank_perm (rk : Nat → Nat) (x : Nat) (l : List Nat) :
    (insertByRank rk x l).Perm (x :: l) := by
  induction l with
  | nil => simp [insertByRank]
  | cons z zs ih =>
    simp only [insertByRank]
    split
    · exact List.Perm.refl _
    · exact (List.Perm.cons z ih).trans (List.Perm.swap x z zs)

theorem mem_insertByRank {rk : Nat → Nat} {x y : Nat} {l : List Nat} :
    y ∈ insertByRank rk x l ↔ y = x ∨ y ∈ l :=
  (insertByRank_perm rk x l).mem_iff.trans List.mem_cons

theorem insertByRank_pairwise {rk : Nat → Nat} {x : Nat} {l : List Nat}
    (hl : l.Pairwise (rlt rk)) (hx : ∀ y ∈ l, y < x) : (insertByRank rk x l).Pairwise (rlt rk) := by
  induction l with
  | nil => simp [insertByRank]
  | cons z zs ih =>
    rw [List.pairwise_cons] at hl
    simp only [insertByRank]
    split
    · rename_i hlt
      rw [List.pairwise_cons]
      refine ⟨?_, List.pairwise_cons.mpr hl⟩
      intro w hw
      rcases List.mem_cons.mp hw with rfl | hw
      · exact Or.inl hlt
      · exact rlt_trans (Or.inl hlt) (hl.1 w hw)
    · rename_i hge
      rw [List.pairwise_cons]
      refine ⟨?_, ih hl.2 (fun y hy => hx y (List.mem_cons_of_mem _ hy))⟩
      intro w hw
      rcases mem_insertByRank.mp hw with rfl | hw
      · have := hx z (List.mem_cons_self)
        unfold rlt; omega
      · exact hl.1 w hw

/-- the input is increasing so that the sort is stable: a later id is larger than every id already
    placed, and `insertByRank` puts it after the ids of equal rank -/
theorem sortFold_spec (rk : Nat → Nat) : ∀ (l acc : List Nat), acc.Pairwise (rlt rk) →
    l.Pairwise (· < ·) → (∀ a ∈ acc, ∀ x ∈ l, a < x) →
    (l.foldl (fun acc x => insertByRank rk x acc) acc).Pairwise (rlt rk) ∧
    (l.foldl (fun acc x => insertByRank rk x acc) acc).Perm (acc ++ l) := by
  intro l
  induction l with
  | nil => intro acc h _ _; simpa using h
  | cons x xs ih =>
    intro acc hacc hl hlt
    rw [List.pairwise_cons] at hl
    simp only [List.foldl_cons]
    have h1 : (insertByRank rk x acc).Pairwise (rlt rk) :=
      insertByRank_pairwise hacc (fun y hy => hlt y hy x List.mem_cons_self)
    have h2 : ∀ a ∈ insertByRank rk x acc, ∀ y ∈ xs, a < y := by
      intro a ha y hy
      rcases mem_insertByRank.mp ha with rfl | ha
      · exact hl.1 y hy
      · exact hlt a ha y (List.mem_cons_of_mem _ hy)
    obtain ⟨p1, p2⟩ := ih (insertByRank rk x acc) h1 hl.2 h2
    refine ⟨p1, p2.trans ?_⟩
    exact ((insertByRank_perm rk x acc).append_right xs).trans (List.perm_middle).symm

theorem sortByRank_spec (rk : Nat → Nat) (n : Nat) :
    (sortByRank rk (List.range n)).Pairwise (rlt rk) ∧ (sortByRank rk (List.range n)).Perm (List.range n) := by
  have := sortFold_spec rk (List.range n) [] List.Pairwise.nil List.pairwise_lt_range (by simp)
  simpa [sortByRank] using this

theorem idxOf_eq (l : List Nat) (x : Nat) : idxOf l x = List.idxOf x l := rfl

theorem idxOf_lt_length {l : List Nat} {v : Nat} (h : v ∈ l) : idxOf l v < l.length :=
  List.idxOf_lt_length_iff.mpr h

theorem getElem_idxOf {l : List Nat} {v : Nat} (h : v ∈ l) : l[idxOf l v]'(idxOf_lt_length h) = v :=
  List.getElem_idxOf (idxOf_lt_length h)

theorem idxOf_getElem {l : List Nat} (hnd : l.Nodup) (i : Nat) (h : i < l.length) : idxOf l l[i] = i :=
  hnd.idxOf_getElem i h

theorem idxOf_append_left {a : List Nat} (b : List Nat) {x : Nat} (h : x ∈ a) : idxOf (a ++ b) x = idxOf a x :=
  List.idxOf_append_of_mem h

theorem idxOf_append_cons_self {a b : List Nat} {x : Nat} (h : x ∉ a) : idxOf (a ++ x :: b) x = a.length := by
  rw [idxOf_eq, List.idxOf_append_of_notMem h, List.idxOf_cons_self, Nat.add_zero]

theorem idxOf_inj {l : List Nat} {u v : Nat} (hu : u ∈ l) (hv : v ∈ l) (h : idxOf l u = idxOf l v) : u = v := by
  have h1 := getElem_idxOf hu
  have h2 := getElem_idxOf hv
  simp only [h] at h1
  exact h1.symm.trans h2

theorem idxOf_lt_iff_of_pairwise {R : Nat → Nat → Prop} {l : List Nat} (hp : l.Pairwise R)
    (hasym : ∀ a b, R a b → ¬ R b a) {u v : Nat} (hu : u ∈ l) (hv : v ∈ l) :
    idxOf l u < idxOf l v ↔ R u v := by
  have hp' := List.pairwise_iff_getElem.mp hp
  have h1 := getElem_idxOf hu
  have h2 := getElem_idxOf hv
  constructor
  · intro h
    have := hp' _ _ (idxOf_lt_length hu) (idxOf_lt_length hv) h
    rwa [h1, h2] at this
  · intro h
    rcases Nat.lt_trichotomy (idxOf l u) (idxOf l v) with hlt | heq | hgt
    · exact hlt
    · have := idxOf_inj hu hv heq
      subst this
      exact absurd h (hasym _ _ h)
    · have := hp' _ _ (idxOf_lt_length hv) (idxOf_lt_length hu) hgt
      rw [h1, h2] at this
      exact absurd h (hasym _ _ this)

theorem pairwise_idxOf_lt {l : List Nat} (hnd : l.Nodup) : l.Pairwise (fun a b => idxOf l a < idxOf l b) := by
  rw [List.pairwise_iff_getElem]
  intro i j hi hj hij
  rw [idxOf_getElem hnd i hi, idxOf_getElem hnd j hj]
  exact hij

end FG
