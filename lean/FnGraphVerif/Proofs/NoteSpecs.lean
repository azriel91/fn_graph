/-
  Proofs/NoteSpecs.lean — the notes the futures monitor (`predFut` on `invoke f`) and the stream
  monitor (`predStream` on a poll that yields `f`) have in common: the four notes emitted when a
  function is started, over the lists (started, in flight, done), and the C08 note at the count
  after the signal.  For each: the list as both monitors write it, when its notes hold, and the
  model-side argument both couplings use for C01.  Before them what every monitor file reads: when
  a comparison note is ok (`Note.ok_cmp`), and what an event contributes to the observed lists
  (`Ev.invoke?`, `Ev.handout?`, `Ev.endedOk?`, `Ev.failed?`, `Ev.ended?`).
-/
import FnGraphVerif.Proofs.TraceDefs
namespace FG

theorem Note.ok_cmp {facet what m i : String} : (Note.cmp facet what m i).ok = true ↔ m = i := by
  simp [Note.ok]

def Ev.invoke? : Ev → Option Nat
  | .invoke f => some f
  | _ => none

def Ev.handout? : Ev → Option Nat
  | .handout f => some f
  | _ => none

def Ev.endedOk? : Ev → Option Nat
  | .fin f true => some f
  | _ => none

def Ev.failed? : Ev → Option Nat
  | .fin f false => some f
  | _ => none

def Ev.ended? : Ev → Option Nat
  | .fin f _ => some f
  | _ => none

/-- not started before (C03), no conflict in flight (C01), every user-graph ancestor done (C02),
    every built-graph predecessor done -/
def startNotes (x : MonCtx) (wh : String) (started inflight done : List Nat) (f : Nat) : List Note :=
  let U := if x.rev then x.userD.flip else x.userD
  [.prop "C03" wh (decide (f ∉ started)),
   .prop "C01" wh (!conflictInflightB x.decls inflight f),
   .prop "C02" wh ((List.range U.n).all (fun u => !reachPlus U u f || decide (u ∈ done))),
   .prop "C01" (wh ++ " (built-graph predecessors)") ((parents x.c.D f).all (fun p => decide (p ∈ done)))]

theorem startNotes_ok {x : MonCtx} {wh : String} {started inflight done : List Nat} {f : Nat}
    (h3 : f ∉ started) (h1 : conflictInflightB x.decls inflight f = false)
    (h2 : ∀ u, reachPlus (if x.rev then x.userD.flip else x.userD) u f = true → u ∈ done)
    (h1b : ∀ p ∈ parents x.c.D f, p ∈ done) :
    ∀ n ∈ startNotes x wh started inflight done f, n.ok = true := by
  intro n hn
  simp only [startNotes, List.mem_cons, List.not_mem_nil, or_false] at hn
  rcases hn with rfl | rfl | rfl | rfl
  · exact decide_eq_true h3
  · show (!_) = true; rw [h1]; rfl
  · refine List.all_eq_true.mpr fun u _ => ?_
    cases hr : reachPlus (if x.rev = true then x.userD.flip else x.userD) u f with
    | false => rfl
    | true => exact decide_eq_true (h2 u hr)
  · exact List.all_eq_true.mpr fun p hp => decide_eq_true (h1b p hp)

/-- **C01 from C11**: among functions none of which is ordered before or after `f`, none conflicts
    with `f` -/
theorem GoodCtx.no_conflict {x : MonCtx} (hx : GoodCtx x) {L : List Nat} {f : Nat} (hf : f < x.c.n)
    (hL : ∀ u ∈ L, u < x.c.n ∧ ¬ ReachP x.c.D u f ∧ ¬ ReachP x.c.D f u) :
    conflictInflightB x.decls L f = false := by
  refine List.any_eq_false.mpr fun u hu hcon => ?_
  simp only [Bool.and_eq_true, bne_iff_ne, ne_eq] at hcon
  obtain ⟨hun, h1, h2⟩ := hL u hu
  exact (hx.ordered u f hun hf hcon.1 hcon.2).elim h1 h2

theorem mem_guarded {Q : Note → Prop} {p : Prop} [Decidable p] {n0 n : Note} (h : p → Q n0)
    (hn : n ∈ (if p then [n0] else [])) : Q n := by
  split at hn
  · rename_i hp; exact List.mem_singleton.mp hn ▸ h hp
  · cases hn

/-- the C08 note: `len + 1` functions started, `k` of them before the signal, bound `b` -/
def c08Notes (wh : String) (atSig bound : Option Nat) (guard : Bool) (len : Nat) : List Note :=
  match atSig, bound with
  | some k, some b => if guard then [.prop "C08" wh (decide (len + 1 - k ≤ b))] else []
  | _, _ => []

theorem c08Notes_spec {Q : Note → Prop} {wh : String} {atSig bound : Option Nat} {guard : Bool} {len : Nat}
    (h : ∀ k b, atSig = some k → bound = some b → guard = true →
      Q (.prop "C08" wh (decide (len + 1 - k ≤ b)))) :
    ∀ n ∈ c08Notes wh atSig bound guard len, Q n := by
  intro n hn
  unfold c08Notes at hn
  split at hn
  · exact mem_guarded (h _ _ rfl rfl) hn
  · cases hn

/-- the strategies with a bound: `FinishCurrent` / `PollNextN(0)` (bound 1 if the awaited item counts
    and the signal was not there before the first poll, else 0), or `PollNextN(k+1)` (bound `k+1`) -/
theorem boundOf_eq_some {st : Strat} {incl pre : Bool} {b : Nat} (hb : boundOf st incl pre = some b) :
    ((st = .finish ∨ st = .pollN 0) ∧ b = if incl && !pre then 1 else 0) ∨
    ∃ k, st = .pollN (k + 1) ∧ b = k + 1 := by
  rcases st with _ | _ | _ | _ | k
  · cases hb
  · cases hb
  · exact .inl ⟨.inl rfl, (Option.some.inj hb).symm⟩
  · exact .inl ⟨.inr rfl, (Option.some.inj hb).symm⟩
  · exact .inr ⟨k, rfl, (Option.some.inj hb).symm⟩

theorem allBlockedB_iff (c : Cfg) (Y D : List Nat) :
    allBlockedB c Y D = true ↔ ∀ v, v < c.n → v ∈ Y ∨ ∃ p ∈ parents c.D v, p ∉ D := by
  simp [allBlockedB, List.all_eq_true, List.any_eq_true]

theorem allBlockedB_of_started {c : Cfg} {started done : List Nat}
    (h : ∀ v < c.n, (∀ p ∈ parents c.D v, p ∈ done) → v ∈ started) :
    allBlockedB c started done = true :=
  (allBlockedB_iff c _ _).mpr fun v hv => Classical.or_iff_not_imp_right.mpr fun hn =>
    h v hv fun p hp => Classical.not_not.mp fun hpd => hn ⟨p, hp, hpd⟩

theorem allBlockedB_of_blocked {c : Cfg} {started done : List Nat}
    (h : ∀ v, v < c.n → v ∉ started → ∃ p ∈ parents c.D v, p ∉ done) : allBlockedB c started done = true :=
  (allBlockedB_iff c _ _).mpr fun v hv => Classical.or_iff_not_imp_left.mpr (h v hv)

theorem goodCtx_of_noDecls {x : MonCtx} (hg : GoodCfg x.c) (herr : x.c.errMode = .none)
    (hU : x.userD = x.c.D) (hrev : x.rev = false) (hd : x.decls = []) : GoodCtx x :=
  { good := hg
    api := fun h => by rw [herr] at h; cases h
    userN := by rw [hU]; rfl
    userSub := fun u v h => by rw [hrev, hU] at h; exact h
    userWF := by rw [hU]; exact hg.wf
    ordered := fun u v _ _ _ hc => by
      rw [hd] at hc
      have : conflict (declOf [] u) (declOf [] v) = false := by
        simp [declOf, conflict]
      rw [this] at hc; cases hc }

end FG
