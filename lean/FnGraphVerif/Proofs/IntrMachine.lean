/-
  The `InterruptibleStream` machine (`Model/Interrupt.lean`).  `pollNext` is `interruptCheck`
  followed by `pollNextPost`.  `pollNext`, `interruptCheck` and `pollsInner` are unfolded only by
  their equations (`pollNext_eq_post`, `interruptCheck_skip`, `_quiet`, `_non`, `_fire`,
  `pollsInner_eq`), `pollNextPost` only by the lemmas here that say what it does on some input.
  Once a signal is in, what the machine can still hand on is a potential, one per kind of answer
  (`IM.budN`, `IM.budI`); every interruption bound of C08 follows from its step lemma
  `budN_budI_poll`.
-/
import FnGraphVerif.Model.Interrupt
namespace FG

/-- the answer hands an item on: `NoInterrupt(item)` or `Interrupted(Some item)` -/
def Out.isItem : Out → Bool
  | .noInt => true
  | .intSome => true
  | _ => false

theorem Out.isItem_count (o : Out) : (if o.isItem then 1 else 0) =
    (if o = .noInt then 1 else 0) + (if o = .intSome then 1 else 0) := by cases o <;> rfl

/-- the part of `pollNext` after `interruptCheck`: what the wrapper does with the inner answer `u` -/
def pollNextPost (m : IM) (u : Under) : IM × Out :=
  let r : IM × Out :=
    if m.hp then
      match u with
      | .pending => (m, .pending)
      | .item => if m.sig then ({ m with ian := true }, .intSome) else (m, .noInt)
      | .none => if m.sig then ({ m with ian := true }, .intNone) else (m, .endd)
    else if m.sig then ({ m with ian := true }, .intNone)
    else match u with
      | .pending => ({ m with hp := true }, .pending)
      | .item => (m, .noInt)
      | .none => (m, .endd)
  if r.2 = .pending then r else ({ r.1 with hp := false, ipc := false }, r.2)

theorem pollNext_eq_post (st : Strat) (m0 : IM) (u : Under) :
    pollNext st m0 u = if m0.ian then (m0, .endd) else pollNextPost (interruptCheck st m0) u := rfl

theorem pollNext_ian {st : Strat} {m : IM} (h : m.ian = true) (u : Under) :
    pollNext st m u = (m, .endd) := by
  rw [pollNext_eq_post, if_pos h]

theorem pollsInner_eq (st : Strat) (m : IM) :
    pollsInner st m = (!m.ian && ((interruptCheck st m).hp || !(interruptCheck st m).sig)) := by
  unfold pollsInner; cases m.ian <;> rfl

theorem pollsInner_ian {st : Strat} {m : IM} (h : pollsInner st m = true) : m.ian = false := by
  rw [pollsInner_eq, Bool.and_eq_true, Bool.not_eq_true'] at h
  exact h.1

theorem pollNext_live {st : Strat} {m : IM} (h : m.ian = false) (u : Under) :
    pollNext st m u = pollNextPost (interruptCheck st m) u := by
  rw [pollNext_eq_post, h]; rfl

/-- the count at which the strategy interrupts: `FinishCurrent` hands items on exactly as
    `PollNextN(0)` does; the other two never interrupt -/
def Strat.lim : Strat → Option Nat
  | .finish => some 0
  | .pollN n => some n
  | _ => none

theorem Strat.lim_zero {st : Strat} (h : st = .finish ∨ st = .pollN 0) : st.lim = some 0 := by
  rcases h with rfl | rfl <;> rfl

/-- does the check count this poll?  `interrupt_check` passes `item_needs_counting = !has_pending`
    under `PollNextN`, and `item_interrupt_poll` counts on `(false, true, _) | (true, true, false)`:
    not while parked, and not the poll that first receives the signal -/
def Strat.counts (st : Strat) (m : IM) : Bool := !st.isN || (!m.hp && m.recv)

/-- does the strategy raise the interrupt at count `k`?  (`interrupt_signal_based_on_strategy`) -/
def Strat.trips (st : Strat) (k : Nat) : Bool :=
  match st.lim with
  | some n => decide (n ≤ k)
  | none => false

theorem Strat.trips_lim {st : Strat} {n : Nat} (h : st.lim = some n) (k : Nat) :
    st.trips k = decide (n ≤ k) := by
  simp only [Strat.trips, h]

/-- the machine after a check that looked at the channel: `k` = the poll is counted, `t` = the
    interrupt is raised -/
def IM.fired (m : IM) (k t : Bool) : IM :=
  { m with sent := m.recv && m.sent, recv := true, cnt := if k then m.cnt + 1 else m.cnt,
           sig := t, ipc := k }

theorem interruptCheck_skip {st : Strat} {m : IM} (h : m.sig = true ∨ m.ipc = true) :
    interruptCheck st m = m := by
  unfold interruptCheck
  rcases h with h | h <;> simp [h]

theorem interruptCheck_quiet {st : Strat} {m : IM} (hr : m.recv = false) (hs : m.sent = false) :
    interruptCheck st m = m := by
  by_cases hsk : m.sig = true ∨ m.ipc = true
  · exact interruptCheck_skip hsk
  · obtain ⟨sent, recv, cnt, sig, hp, ipc, ian⟩ := m
    simp only [not_or, Bool.not_eq_true] at hsk hr hs
    obtain ⟨rfl, rfl⟩ := hsk
    subst hr hs
    cases st <;> rfl

theorem interruptCheck_non (m : IM) : interruptCheck .non m = m := by
  by_cases hsk : m.sig = true ∨ m.ipc = true
  · exact interruptCheck_skip hsk
  · obtain ⟨sent, recv, cnt, sig, hp, ipc, ian⟩ := m
    simp only [not_or, Bool.not_eq_true] at hsk
    obtain ⟨rfl, rfl⟩ := hsk
    rfl

theorem interruptCheck_fire {st : Strat} (hst : st ≠ .non) {m : IM} (hs : m.sig = false)
    (hi : m.ipc = false) (h : m.recv = true ∨ m.sent = true) :
    interruptCheck st m =
      m.fired (st.counts m) (st.trips (if st.counts m then m.cnt + 1 else m.cnt)) := by
  obtain ⟨sent, recv, cnt, sig, hp, ipc, ian⟩ := m
  simp only at hs hi h
  subst hs hi
  cases st with
  | non => exact absurd rfl hst
  | ignore | finish =>
    cases recv <;> simp_all [interruptCheck, IM.fired, Strat.counts, Strat.trips, Strat.lim, Strat.isN]
  | pollN n =>
    -- only `PollNextN` looks at `hp`
    cases recv <;> cases hp <;>
      simp_all [interruptCheck, IM.fired, Strat.counts, Strat.trips, Strat.lim, Strat.isN]

theorem interruptCheck_cases (st : Strat) (m : IM) :
    interruptCheck st m = m ∨
    (m.sig = false ∧ m.ipc = false ∧ (m.recv = true ∨ m.sent = true) ∧
      interruptCheck st m =
        m.fired (st.counts m) (st.trips (if st.counts m then m.cnt + 1 else m.cnt))) := by
  by_cases hst : st = .non
  · exact .inl (hst ▸ interruptCheck_non m)
  by_cases hsk : m.sig = true ∨ m.ipc = true
  · exact .inl (interruptCheck_skip hsk)
  simp only [not_or, Bool.not_eq_true] at hsk
  by_cases h : m.recv = true ∨ m.sent = true
  · exact .inr ⟨hsk.1, hsk.2, h, interruptCheck_fire hst hsk.1 hsk.2 h⟩
  · simp only [not_or, Bool.not_eq_true] at h
    exact .inl (interruptCheck_quiet h.1 h.2)

theorem interruptCheck_frame (st : Strat) (m : IM) :
    (interruptCheck st m).hp = m.hp ∧ (interruptCheck st m).ian = m.ian := by
  rcases interruptCheck_cases st m with e | ⟨-, -, -, e⟩ <;> rw [e] <;> exact ⟨rfl, rfl⟩

/-- `if poll.is_ready()`: `has_pending` and `item_polled_is_counted` are reset -/
def IM.idle (m : IM) : IM := { m with hp := false, ipc := false }

/-- the answer of a wrapper that does not interrupt: the underlying one -/
def transparentOut : Under → Out
  | .item => .noInt
  | .none => .endd
  | .pending => .pending

/-- the part after the check parks on a `Pending` answer, passes the answer on, or interrupts -/
theorem pollNextPost_cases (m : IM) (u : Under) :
    (pollNextPost m u = ({ m with hp := true }, .pending) ∧ u = .pending ∧
      (m.hp = true ∨ m.sig = false)) ∨
    (pollNextPost m u = (m.idle, transparentOut u) ∧ u ≠ .pending ∧ m.sig = false) ∨
    (pollNextPost m u = ({ m.idle with ian := true },
        if m.hp = true ∧ u = .item then .intSome else .intNone) ∧
      m.sig = true ∧ (m.hp = false ∨ u ≠ .pending)) := by
  obtain ⟨sent, recv, cnt, sig, hp, ipc, ian⟩ := m
  cases hp <;> cases sig <;> cases u <;> simp [pollNextPost, IM.idle, transparentOut]

theorem pollNextPost_raised {m : IM} (hp : m.hp = false) (hs : m.sig = true) (u : Under) :
    pollNextPost m u = ({ m.idle with ian := true }, .intNone) := by
  simp [pollNextPost, IM.idle, hp, hs]

theorem pollNextPost_item {m : IM} (hs : m.sig = false) : pollNextPost m .item = (m.idle, .noInt) := by
  cases hp : m.hp <;> simp [pollNextPost, IM.idle, hp, hs]

theorem pollNextPost_frame (m : IM) (u : Under) :
    (pollNextPost m u).1.sent = m.sent ∧ (pollNextPost m u).1.recv = m.recv ∧
    (pollNextPost m u).1.cnt = m.cnt ∧ (pollNextPost m u).1.sig = m.sig := by
  rcases pollNextPost_cases m u with ⟨e, -⟩ | ⟨e, -⟩ | ⟨e, -⟩ <;> rw [e] <;>
    exact ⟨rfl, rfl, rfl, rfl⟩

theorem pollNextPost_sent (m : IM) (u : Under) :
    pollNextPost { m with sent := true } u =
      ({ (pollNextPost m u).1 with sent := true }, (pollNextPost m u).2) := by
  unfold pollNextPost
  obtain ⟨_, _, _, sig, hp, _, _⟩ := m
  cases hp <;> cases sig <;> cases u <;> rfl

theorem pollNext_cases (st : Strat) (m : IM) (u : Under) :
    (m.ian = true ∧ pollNext st m u = (m, .endd)) ∨
    (m.ian = false ∧
      ((pollNext st m u = ({ interruptCheck st m with hp := true }, .pending) ∧ u = .pending ∧
          ((interruptCheck st m).hp = true ∨ (interruptCheck st m).sig = false)) ∨
       (pollNext st m u = ((interruptCheck st m).idle, transparentOut u) ∧ u ≠ .pending ∧
          (interruptCheck st m).sig = false) ∨
       (pollNext st m u = ({ (interruptCheck st m).idle with ian := true },
            if (interruptCheck st m).hp = true ∧ u = .item then .intSome else .intNone) ∧
          (interruptCheck st m).sig = true ∧ ((interruptCheck st m).hp = false ∨ u ≠ .pending)))) := by
  cases hian : m.ian
  · rw [pollNext_live hian]; exact .inr ⟨rfl, pollNextPost_cases _ u⟩
  · rw [pollNext_ian hian]; exact .inl ⟨rfl, rfl⟩

theorem pollNext_signalIn (st : Strat) {m : IM} (u : Under) (h : m.recv = true ∨ m.sent = true) :
    (pollNext st m u).1.recv = true ∨ (pollNext st m u).1.sent = true := by
  cases hian : m.ian
  · obtain ⟨f1, f2, -, -⟩ := pollNextPost_frame (interruptCheck st m) u
    rw [pollNext_live hian, f2, f1]
    rcases interruptCheck_cases st m with e | ⟨-, -, -, e⟩ <;> rw [e]
    · exact h
    · exact .inl rfl
  · rw [pollNext_ian hian]; exact h

theorem pollNext_item_hp (st : Strat) (m : IM) (u : Under) (h : (pollNext st m u).2.isItem = true) :
    (pollNext st m u).1.hp = false ∧ (pollNext st m u).1.ipc = false := by
  rcases pollNext_cases st m u with ⟨-, e⟩ | ⟨-, ⟨e, -⟩ | ⟨e, -⟩ | ⟨e, -⟩⟩ <;> rw [e] at h ⊢
  · cases h
  · cases h
  · exact ⟨rfl, rfl⟩
  · exact ⟨rfl, rfl⟩

theorem pollNextPost_isItem (m : IM) (u : Under) :
    (pollNextPost m u).2.isItem = ((m.hp || !m.sig) && decide (u = .item)) := by
  obtain ⟨sent, recv, cnt, sig, hp, ipc, ian⟩ := m
  cases hp <;> cases sig <;> cases u <;> rfl

theorem pollNext_isItem (st : Strat) (m : IM) (u : Under) :
    (pollNext st m u).2.isItem = (pollsInner st m && decide (u = .item)) := by
  rw [pollsInner_eq]
  cases hian : m.ian
  · rw [pollNext_live hian, pollNextPost_isItem]; rfl
  · rw [pollNext_ian hian]; rfl

theorem pollNextPost_transparent {m : IM} (hsig : m.sig = false) (u : Under) :
    (pollNextPost m u).1.ian = m.ian ∧ (pollNextPost m u).2 = transparentOut u := by
  rcases pollNextPost_cases m u with ⟨e, hu, -⟩ | ⟨e, -⟩ | ⟨-, hs, -⟩
  · rw [e, hu]; exact ⟨rfl, rfl⟩
  · rw [e]; exact ⟨rfl, rfl⟩
  · rw [hsig] at hs; cases hs

theorem transparentOut_ne_intSome (u : Under) : transparentOut u ≠ .intSome := by
  cases u <;> simp [transparentOut]

theorem transparentOut_endd {u : Under} (h : transparentOut u = .endd) : u = .none := by
  cases u <;> simp_all [transparentOut]

theorem pollNext_transparent {st : Strat} (hst : st = .non ∨ st = .ignore) {m : IM}
    (hsig : m.sig = false) (hian : m.ian = false) (u : Under) :
    (pollNext st m u).1.sig = false ∧ (pollNext st m u).1.ian = false ∧
    (pollNext st m u).2 = transparentOut u := by
  -- these strategies never raise the interrupt
  have h1 : (interruptCheck st m).sig = false := by
    rcases interruptCheck_cases st m with e | ⟨-, -, -, e⟩ <;> rw [e]
    · exact hsig
    · rcases hst with rfl | rfl <;> rfl
  obtain ⟨p1, p2⟩ := pollNextPost_transparent h1 u
  rw [pollNext_live hian]
  exact ⟨(pollNextPost_frame _ u).2.2.2.trans h1,
    p1.trans ((interruptCheck_frame st m).2.trans hian), p2⟩

/-- no signal sent or received; the count may be carried -/
def IM.NoSignal (m : IM) : Prop := m.sent = false ∧ m.recv = false ∧ m.sig = false ∧ m.ian = false

/-- without a signal the wrapper is transparent, whatever the strategy -/
theorem IM.NoSignal.poll {m : IM} (h : m.NoSignal) (st : Strat) (u : Under) :
    (pollNext st m u).1.NoSignal ∧ (pollNext st m u).2 = transparentOut u := by
  obtain ⟨p1, p2⟩ := pollNextPost_transparent h.2.2.1 u
  obtain ⟨f1, f2, -, f4⟩ := pollNextPost_frame m u
  rw [pollNext_live h.2.2.2, interruptCheck_quiet h.2.1 h.1]
  exact ⟨⟨f1.trans h.1, f2.trans h.2.1, f4.trans h.2.2.1, p1.trans h.2.2.2⟩, p2⟩

theorem pollNext_init_item (st : Strat) : (pollNext st {} .item).2 = .noInt :=
  (IM.NoSignal.poll (m := {}) ⟨rfl, rfl, rfl, rfl⟩ st .item).2

/-- items a `PollNextN(n)` stream can still hand on, by the carried reception flag and count: a
    run may be handed an `InterruptibilityState` an earlier run used (`reborrow()`); `recv`, `cnt`
    then start at `r0`, `k0` -/
def carriedBudget (n : Nat) (r0 : Bool) (k0 : Nat) : Nat := if r0 then n - (k0 + 1) else n - k0

/-- the limit less the count the first check will leave -/
theorem carriedBudget_eq (n : Nat) (r : Bool) (k : Nat) :
    carriedBudget n r k = n - (if r then k + 1 else k) := by cases r <;> rfl

/-- items an idle machine (`hp = ipc = sig = false`) can still hand on once a signal is in: the
    check counts every poll before it may yield, except the poll that first receives the signal -/
def IM.idleBud (n : Nat) (m : IM) : Nat := carriedBudget n m.recv m.cnt

/-- `NoInterrupt(item)` answers the machine can still give once a signal is in, seen before its
    next check: none when the interrupt is raised; the awaited item, if the poll is counted
    already, plus what the idle machine can do after it; a parked poll is checked against the
    count as it stands -/
def IM.budN (n : Nat) (m : IM) : Nat :=
  if m.ian || m.sig then 0
  else if m.ipc then 1 + m.idleBud n
  else if m.hp then n - m.cnt
  else m.idleBud n

/-- `Interrupted(Some _)` answers still possible: one, if a poll is parked and the interrupt is
    raised or will be by the next check -/
def IM.budI (n : Nat) (m : IM) : Nat :=
  if m.ian then 0
  else if m.hp then (if m.sig then 1 else if m.ipc then 0 else if n ≤ m.cnt then 1 else 0)
  else 0

/-- items the machine can still hand on once a signal is in -/
def IM.bud (n : Nat) (m : IM) : Nat := m.budN n + m.budI n

theorem budN_signal (n : Nat) (m : IM) : ({ m with sent := true } : IM).budN n = m.budN n := rfl
theorem bud_signal (n : Nat) (m : IM) : ({ m with sent := true } : IM).bud n = m.bud n := rfl

theorem interruptCheck_lim {st : Strat} {n : Nat} (hst : st.lim = some n) {m : IM}
    (h : m.recv = true ∨ m.sent = true) :
    (interruptCheck st m = m ∧ (m.sig = true ∨ m.ipc = true)) ∨
    (m.sig = false ∧ m.ipc = false ∧ interruptCheck st m =
      m.fired (st.counts m) (decide (n ≤ if st.counts m then m.cnt + 1 else m.cnt))) := by
  by_cases hsk : m.sig = true ∨ m.ipc = true
  · exact .inl ⟨interruptCheck_skip hsk, hsk⟩
  · simp only [not_or, Bool.not_eq_true] at hsk
    have hne : st ≠ .non := fun e => by rw [e] at hst; cases hst
    exact .inr ⟨hsk.1, hsk.2, by rw [interruptCheck_fire hne hsk.1 hsk.2 h, Strat.trips_lim hst]⟩

/-- across the check (a signal being in): seen with the poll taken as counted, `budN` does not
    grow; `budI` does not grow; and unless the interrupt is raised the poll is counted or the
    count is below the limit -/
theorem bud_check {st : Strat} {n : Nat} (hst : st.lim = some n) {m : IM} (hian : m.ian = false)
    (h : m.recv = true ∨ m.sent = true) :
    ({ interruptCheck st m with ipc := true } : IM).budN n ≤ m.budN n ∧
    (interruptCheck st m).budI n ≤ m.budI n ∧
    ((interruptCheck st m).sig = false →
      (interruptCheck st m).ipc = true ∨ (interruptCheck st m).cnt < n) := by
  rcases interruptCheck_lim hst h with ⟨e, hsk⟩ | ⟨hs, hi, e⟩ <;> rw [e]
  · refine ⟨?_, Nat.le_refl _, fun hs => hsk.elim (fun h => absurd h (by simp [hs])) .inl⟩
    rcases hsk with hs | hi
    · simp [IM.budN, hs]
    · simp [IM.budN, IM.idleBud, hi]
  · obtain ⟨sent, recv, cnt, sig, hp, ipc, ian⟩ := m
    simp only at hs hi hian
    subst hs hi hian
    refine ⟨?_, ?_, fun h => .inr (by simpa [IM.fired] using h)⟩
    · -- at most `n - c` plain items remain, `c` the count the check leaves; that is `budN` before
      -- the check: parked or receiving, `PollNextN` does not count the poll, otherwise it does
      refine Nat.le_trans
        (m := n - (if st.counts ⟨sent, recv, cnt, false, hp, false, false⟩ then cnt + 1 else cnt)) ?_ ?_
      · have key : ∀ c, (if n ≤ c then 0 else 1 + (n - (c + 1))) ≤ n - c := fun c => by
          split <;> omega
        simp only [IM.fired, IM.budN, IM.idleBud, carriedBudget, Bool.false_or, decide_eq_true_eq,
          if_true]
        exact key _
      · cases st <;> simp [Strat.lim] at hst <;> subst hst
        · exact Nat.le_trans (Nat.le_of_eq (Nat.zero_sub _)) (Nat.zero_le _)
        · cases hp <;> cases recv <;> exact Nat.le_refl _
    · cases hp
      · exact Nat.le_refl 0
      · -- parked: `PollNextN` does not count the poll, `FinishCurrent` has limit 0
        cases st <;> simp [Strat.lim] at hst <;> subst hst <;>
          simp [IM.fired, IM.budI, Strat.counts, Strat.isN]
        split <;> simp

theorem budN_budI_poll {st : Strat} {n : Nat} (hst : st.lim = some n) {m : IM}
    (h : m.recv = true ∨ m.sent = true) (u : Under) :
    (pollNext st m u).1.budN n + (if (pollNext st m u).2 = .noInt then 1 else 0) ≤ m.budN n ∧
    (pollNext st m u).1.budI n + (if (pollNext st m u).2 = .intSome then 1 else 0) ≤ m.budI n := by
  rcases pollNext_cases st m u with ⟨-, e⟩ | ⟨hian, hcases⟩
  · rw [e]; exact ⟨Nat.le_refl _, Nat.le_refl _⟩
  obtain ⟨cN, cI, cK⟩ := bud_check hst hian h
  -- taken as counted, `budN` is the awaited item plus the idle budget; the parked machine
  -- (`n - cnt`) and the idle machine plus its plain item both stay below that
  have cian := (interruptCheck_frame st m).2.trans hian
  generalize interruptCheck st m = c at cN cI cK cian hcases
  obtain ⟨sent, recv, cnt, sig, hp', ipc, ian⟩ := c
  simp only at cian
  subst cian
  rcases hcases with ⟨e, -, hp⟩ | ⟨e, hu, hs⟩ | ⟨e, hs, -⟩ <;> rw [e]
  · -- parked: the awaited item was in `budN` already; `budI` by the third clause of `bud_check`
    simp only at hp
    refine ⟨Nat.le_trans ?_ cN, Nat.le_trans ?_ cI⟩
    · clear cN cI cK
      cases sig
      · cases ipc
        · cases recv <;> simp [IM.budN, IM.idleBud, carriedBudget] <;> omega
        · exact Nat.le_refl _
      · exact Nat.le_refl _
    · cases hp'
      · -- newly parked, so not raised: counted, or below the limit
        cases sig
        · rcases cK rfl with hi | hlt
          · simp [IM.budI, show ipc = true from hi]
          · simp [IM.budI, Nat.not_le.mpr hlt]
        · simp at hp
      · simp
  · -- passed on: the machine is idle again
    simp only at hs
    subst hs
    refine ⟨Nat.le_trans ?_ cN, ?_⟩
    · clear cN cI cK
      simp only [IM.budN, IM.idle, IM.idleBud, Bool.or_self, Bool.false_eq_true, if_false, if_true]
      split <;> omega
    · cases u <;> simp [IM.budI, IM.idle, transparentOut] at hu ⊢
  · -- interrupted: `ian` is set, so nothing is left and the answer is no plain item; only a
    -- parked poll still hands its item on
    simp only at hs
    subst hs
    refine ⟨Nat.le_trans (Nat.le_of_eq ?_) (Nat.zero_le _), Nat.le_trans ?_ cI⟩
    · split <;> rfl
    · cases hp' <;> simp [IM.budI]
      split <;> simp

theorem bud_poll {st : Strat} {n : Nat} (hst : st.lim = some n) {m : IM}
    (h : m.recv = true ∨ m.sent = true) (u : Under) :
    (pollNext st m u).1.bud n + (if (pollNext st m u).2.isItem then 1 else 0) ≤ m.bud n := by
  have p := budN_budI_poll hst h u
  rw [Out.isItem_count]
  unfold IM.bud
  omega

/-- nothing parked and not raised: no `Interrupted(Some _)` answer will be given -/
theorem budI_zero_poll {st : Strat} {n : Nat} (hst : st.lim = some n) {m : IM}
    (h : m.recv = true ∨ m.sent = true) (h0 : m.budI n = 0) (u : Under) :
    (pollNext st m u).1.budI n = 0 ∧ (pollNext st m u).2 ≠ .intSome := by
  have := (budN_budI_poll hst h u).2
  rw [h0] at this
  exact ⟨by omega, fun e => by rw [if_pos e] at this; omega⟩

/-- no signal was ever sent (fresh start) -/
def IM.Pristine (m : IM) : Prop := m.NoSignal ∧ m.cnt = 0 ∧ m.ipc = false

theorem pristine_init : ({} : IM).Pristine := ⟨⟨rfl, rfl, rfl, rfl⟩, rfl, rfl⟩

theorem IM.Pristine.poll {st : Strat} {m : IM} (h : m.Pristine) (u : Under) :
    (pollNext st m u).1.Pristine := by
  obtain ⟨⟨h1, h2, h4, h6⟩, h3, h5⟩ := h
  rw [pollNext_live h6, interruptCheck_quiet h2 h1]
  rcases pollNextPost_cases m u with ⟨e, -⟩ | ⟨e, -⟩ | ⟨-, hs, -⟩
  · rw [e]; exact ⟨⟨h1, h2, h4, h6⟩, h3, h5⟩
  · rw [e]; exact ⟨⟨h1, h2, h4, h6⟩, h3, rfl⟩
  · rw [h4] at hs; cases hs

/-- when the first signal arrives the budget is `n`, or the one awaited item if `n = 0` -/
theorem pristine_bud (n : Nat) {m : IM} (h : m.Pristine) : m.bud n ≤ max n 1 := by
  obtain ⟨⟨-, h2, h4, h6⟩, h3, h5⟩ := h
  simp only [IM.bud, IM.budN, IM.budI, IM.idleBud, carriedBudget, h2, h3, h4, h5, h6, Bool.or_self,
    Bool.false_eq_true, if_false]
  cases m.hp
  · simp; omega
  · by_cases hn : n = 0 <;> simp [hn]; omega

theorem pristine_budN (n : Nat) {m : IM} (h : m.Pristine) : m.budN n ≤ n := by
  obtain ⟨⟨-, h2, h4, h6⟩, h3, h5⟩ := h
  simp only [IM.budN, IM.idleBud, carriedBudget, h2, h3, h4, h5, h6, Bool.or_self,
    Bool.false_eq_true, if_false]
  split <;> omega

theorem carriedBudget_zero (r0 : Bool) (k0 : Nat) : carriedBudget 0 r0 k0 = 0 := by
  unfold carriedBudget; split <;> exact Nat.zero_sub _

/-- limit 0, nothing parked or counted: nothing more is handed on -/
theorem bud_zero_idle {m : IM} (hh : m.hp = false) (hi : m.ipc = false) : m.bud 0 = 0 := by
  simp [IM.bud, IM.budN, IM.budI, IM.idleBud, carriedBudget_zero, hh, hi]

theorem bud_carried (n : Nat) (s0 r0 : Bool) (k0 : Nat) :
    ({ sent := s0, recv := r0, cnt := k0 } : IM).bud n = carriedBudget n r0 k0 := rfl

/-- items handed on over a sequence of underlying answers -/
def itemsOf (st : Strat) (m : IM) : List Under → Nat
  | [] => 0
  | u :: us => (if (pollNext st m u).2.isItem then 1 else 0) + itemsOf st (pollNext st m u).1 us

theorem itemsOf_ian (st : Strat) {m : IM} (h : m.ian = true) (us : List Under) : itemsOf st m us = 0 := by
  induction us with
  | nil => rfl
  | cons u us ih => simp [itemsOf, pollNext_ian h, ih, Out.isItem]

theorem item_poll_idle (n : Nat) {m : IM} (hs : m.sig = false) (hi : m.ipc = false)
    (hh : m.hp = false) (ha : m.ian = false) (h : m.recv = true ∨ m.sent = true) :
    (m.idleBud n = 0 ∧ (pollNext (.pollN n) m .item).1.ian = true ∧
      (pollNext (.pollN n) m .item).2.isItem = false) ∨
    (∃ m', pollNext (.pollN n) m .item = (m', .noInt) ∧ m'.sig = false ∧ m'.ipc = false ∧
      m'.hp = false ∧ m'.ian = false ∧ m'.recv = true ∧ m'.idleBud n + 1 = m.idleBud n) := by
  -- the whole idea: an idle machine counts a poll iff the signal was already received
  have hk : (Strat.pollN n).counts m = m.recv := by simp [Strat.counts, Strat.isN, hh]
  rw [pollNext_live ha, interruptCheck_fire (by simp) hs hi h, Strat.trips_lim rfl, hk]
  by_cases hle : n ≤ (if m.recv then m.cnt + 1 else m.cnt)
  · left
    rw [pollNextPost_raised (m := m.fired _ _) hh (by simp [IM.fired, hle])]
    exact ⟨(carriedBudget_eq n m.recv m.cnt).trans (Nat.sub_eq_zero_of_le hle), rfl, rfl⟩
  · right
    rw [pollNextPost_item (m := m.fired _ _) (by simp [IM.fired, hle])]
    refine ⟨_, rfl, by simp [IM.idle, IM.fired, hle], rfl, rfl, ha, rfl, ?_⟩
    show carriedBudget n true (if m.recv then m.cnt + 1 else m.cnt) + 1 = carriedBudget n m.recv m.cnt
    rw [carriedBudget_eq, carriedBudget_eq, if_pos rfl]
    generalize (if m.recv = true then m.cnt + 1 else m.cnt) = c at hle ⊢
    omega

theorem itemsOf_replicate_idle (n : Nat) : ∀ (j : Nat) (m : IM), m.sig = false → m.ipc = false →
    m.hp = false → m.ian = false → (m.recv = true ∨ m.sent = true) →
    itemsOf (.pollN n) m (List.replicate j .item) = min j (m.idleBud n) := by
  intro j
  induction j with
  | zero => intros; simp [itemsOf]
  | succ j ih =>
    intro m hs hi hh ha h
    simp only [List.replicate_succ, itemsOf]
    rcases item_poll_idle n hs hi hh ha h with ⟨h0, h1, h2⟩ | ⟨m', e, a1, a2, a3, a4, a5, a6⟩
    · rw [itemsOf_ian _ h1, h2, h0]
      simp
    · rw [e, ih m' a1 a2 a3 a4 (Or.inl a5)]
      simp only [Out.isItem, if_true]
      omega

/-- over an underlying stream that always has an item ready, `j` polls of the carried machine
    hand on exactly `min j (carriedBudget n r0 k0)` items -/
theorem carriedBudget_attained (n : Nat) (s0 r0 : Bool) (k0 : Nat) (h : r0 = true ∨ s0 = true) (j : Nat) :
    itemsOf (.pollN n) { sent := s0, recv := r0, cnt := k0 } (List.replicate j .item) =
      min j (carriedBudget n r0 k0) :=
  itemsOf_replicate_idle n j _ rfl rfl rfl rfl h

/-- no sequence of answers does better than the budget (with further signals: `bud_signal`) -/
theorem itemsOf_le_bud {st : Strat} {n : Nat} (hst : st.lim = some n) (us : List Under) :
    ∀ m : IM, (m.recv = true ∨ m.sent = true) → itemsOf st m us ≤ m.bud n := by
  induction us with
  | nil => intro m _; exact Nat.zero_le _
  | cons u us ih =>
    intro m hm
    have h2 := bud_poll hst hm u
    have := ih _ (pollNext_signalIn st u hm)
    simp only [itemsOf]
    omega

theorem itemsOf_le_budget (n : Nat) (s0 r0 : Bool) (k0 : Nat) (h : r0 = true ∨ s0 = true)
    (us : List Under) :
    itemsOf (.pollN n) { sent := s0, recv := r0, cnt := k0 } us ≤ carriedBudget n r0 k0 :=
  itemsOf_le_bud (st := .pollN n) rfl us _ h

/-- `PollNextN(5)`, a signal received earlier, 2 polls counted: budget 2; after 0 … 5 polls of a
    stream that always has an item 0, 1, 2, 2, 2, 2 items were handed on -/
example : ((List.range 6).map fun j =>
    ((List.replicate j Under.item).foldl (fun (p : IM × Nat) u =>
        ((pollNext (.pollN 5) p.1 u).1, p.2 + if (pollNext (.pollN 5) p.1 u).2.isItem then 1 else 0))
      (({ sent := false, recv := true, cnt := 2 } : IM), 0)).2) = [0, 1, 2, 2, 2, 2] ∧
    carriedBudget 5 true 2 = 2 := by decide

/-- `sig` and `ian` only ever hold after the signal was received -/
def IM.Ok (m : IM) : Prop := (m.sig = true → m.recv = true) ∧ (m.ian = true → m.recv = true)

theorem interruptCheck_mono (st : Strat) (m : IM) :
    (m.recv = true → (interruptCheck st m).recv = true) ∧ (m.Ok → (interruptCheck st m).Ok) := by
  rcases interruptCheck_cases st m with e | ⟨-, -, -, e⟩ <;> rw [e]
  · exact ⟨id, id⟩
  · exact ⟨fun _ => rfl, fun _ => ⟨fun _ => rfl, fun _ => rfl⟩⟩

theorem pollNext_mono (st : Strat) (m : IM) (u : Under) :
    (m.recv = true → (pollNext st m u).1.recv = true) ∧ (m.Ok → (pollNext st m u).1.Ok) := by
  obtain ⟨cr, co⟩ := interruptCheck_mono st m
  rcases pollNext_cases st m u with ⟨-, e⟩ | ⟨-, ⟨e, -⟩ | ⟨e, -⟩ | ⟨e, hs, -⟩⟩ <;> rw [e]
  · exact ⟨id, id⟩
  · exact ⟨cr, co⟩
  · exact ⟨cr, co⟩
  · exact ⟨cr, fun h => ⟨(co h).1, fun _ => (co h).1 hs⟩⟩

theorem pollNext_answer (st : Strat) (m : IM) (u : Under) :
    match (pollNext st m u).2 with
    | .pending => u = .pending ∧ (pollNext st m u).1.ian = m.ian
    | .endd => (pollNext st m u).1.ian = m.ian ∧ (m.ian = true ∨ u = .none)
    | .intNone => m.ian = false ∧ (pollNext st m u).1.ian = true
    | .intSome => m.ian = false ∧ (pollNext st m u).1.ian = true ∧ u = .item
    | .noInt => (pollNext st m u).1.ian = m.ian ∧ u = .item := by
  have cian := (interruptCheck_frame st m).2
  rcases pollNext_cases st m u with ⟨hian, e⟩ | ⟨hian, ⟨e, hu, -⟩ | ⟨e, hu, -⟩ | ⟨e, -⟩⟩ <;> rw [e]
  · exact ⟨rfl, Or.inl hian⟩
  · exact ⟨hu, cian⟩
  · cases u
    · exact ⟨cian, rfl⟩
    · exact ⟨cian, Or.inr rfl⟩
    · exact absurd rfl hu
  · by_cases hc : (interruptCheck st m).hp = true ∧ u = .item
    · rw [if_pos hc]; exact ⟨hian, rfl, hc.2⟩
    · rw [if_neg hc]; exact ⟨hian, rfl⟩

/-- `Interrupted(..)` -/
def Out.isIntr : Out → Bool
  | .intSome => true
  | .intNone => true
  | _ => false

theorem pollNext_notIan {st : Strat} {m : IM} {u : Under} (h : (pollNext st m u).1.ian = false) :
    m.ian = false ∧ (pollNext st m u).2.isIntr = false := by
  have ha := pollNext_answer st m u
  revert ha h
  generalize pollNext st m u = r
  obtain ⟨m', o⟩ := r
  -- row by row of `pollNext_answer`: the `Interrupted(..)` rows set `ian`, the others keep it
  cases o
  · exact fun h ha => ⟨ha.1.symm.trans h, rfl⟩
  · exact fun h ha => absurd (ha.2.1.symm.trans h) (by simp)
  · exact fun h ha => absurd (ha.2.symm.trans h) (by simp)
  · exact fun h ha => ⟨ha.1.symm.trans h, rfl⟩
  · exact fun h ha => ⟨ha.2.symm.trans h, rfl⟩

theorem pollNextPost_pending {m : IM} {u : Under} (h : (pollNextPost m u).2 = .pending) :
    u = .pending ∧ (m.hp = true ∨ m.sig = false) ∧ (pollNextPost m u).1 = { m with hp := true } := by
  rcases pollNextPost_cases m u with ⟨e, hu, hp⟩ | ⟨e, hu, -⟩ | ⟨e, -⟩
  · rw [e]; exact ⟨hu, hp, rfl⟩
  · rw [e] at h
    cases u
    · cases h
    · cases h
    · exact absurd rfl hu
  · rw [e] at h; split at h <;> cases h

theorem pollNext_pending {st : Strat} {m : IM} {u : Under} (h : (pollNext st m u).2 = .pending) :
    u = .pending ∧ pollsInner st m = true := by
  cases hian : m.ian
  · rw [pollNext_live hian] at h
    obtain ⟨rfl, hc, -⟩ := pollNextPost_pending h
    refine ⟨rfl, ?_⟩
    rw [pollsInner_eq, hian]
    rcases hc with hc | hc <;> simp [hc]
  · rw [pollNext_ian hian] at h; cases h

theorem pollNext_noInner {st : Strat} {m : IM} {u : Under} (h : pollsInner st m = false) :
    (pollNext st m u).2 ≠ .pending :=
  fun hp => Bool.false_ne_true (h.symm.trans (pollNext_pending hp).2)

theorem pollNextPost_absorb {m : IM} (u : Under) (h : m.hp = true ∨ m.sig = false) :
    pollNextPost { m with hp := true } u = pollNextPost m u := by
  obtain ⟨sent, recv, cnt, sig, hp, ipc, ian⟩ := m
  cases hp <;> cases sig <;> cases u <;> simp [pollNextPost] at h ⊢

theorem pollNextPost_indep {m : IM} (u : Under) (h : (pollNextPost m .pending).2 ≠ .pending) :
    pollNextPost m u = pollNextPost m .pending := by
  -- not `Pending` to a pending stream: the interrupt is raised and nothing is parked
  rcases pollNextPost_cases m .pending with ⟨e, -⟩ | ⟨-, hu, -⟩ | ⟨-, hs, hp | hu⟩
  · rw [e] at h; exact absurd rfl h
  · exact absurd rfl hu
  · rw [pollNextPost_raised hp hs, pollNextPost_raised hp hs]
  · exact absurd rfl hu

theorem interruptCheck_fixed {st : Strat} (hst : st ≠ .non) {x : IM} (hs : x.sig = false)
    (hi : x.ipc = false) (hr : x.recv = true) (hk : st.counts x = false)
    (ht : st.trips x.cnt = false) : interruptCheck st x = x := by
  rw [interruptCheck_fire hst hs hi (Or.inl hr), hk, if_neg Bool.false_ne_true, ht]
  obtain ⟨sent, recv, cnt, sig, hp, ipc, ian⟩ := x
  simp only at hs hi hr
  subst hs hi hr
  simp [IM.fired]

/-- after a poll has answered `Pending` the next interrupt check changes nothing: the check has
    looked at the channel, and a parked poll is not counted -/
theorem interruptCheck_idem (st : Strat) (m : IM) :
    interruptCheck st { interruptCheck st m with hp := true } = { interruptCheck st m with hp := true } := by
  by_cases hst : st = .non
  · rw [hst, interruptCheck_non, interruptCheck_non]
  rcases interruptCheck_cases st { interruptCheck st m with hp := true } with e | ⟨hs, hi, hrs, -⟩
  · exact e
  -- the second check looks at the channel: so did the first, without counting or interrupting
  have hm : m.sig = false ∧ m.ipc = false ∧ (m.recv = true ∨ m.sent = true) := by
    rcases interruptCheck_cases st m with e1 | ⟨hs1, hi1, h1, -⟩
    · rw [e1] at hs hi hrs; exact ⟨hs, hi, hrs⟩
    · exact ⟨hs1, hi1, h1⟩
  have hc := interruptCheck_fire hst hm.1 hm.2.1 hm.2.2
  have hk : st.counts m = false := by rw [hc] at hi; exact hi
  have ht : st.trips m.cnt = false := by rw [hc, hk] at hs; exact hs
  -- a check that looks but does not count can only be `PollNextN`
  have hN : st.isN = true := by
    cases hn : st.isN
    · simp [Strat.counts, hn] at hk
    · rfl
  apply interruptCheck_fixed hst hs hi
  · rw [hc]; rfl
  · simp [Strat.counts, hN]
  · rw [hc, hk]; exact ht

theorem pollNext_absorb (st : Strat) (m : IM) (u : Under)
    (h : (pollNext st m .pending).2 = .pending) :
    pollNext st (pollNext st m .pending).1 u = pollNext st m u := by
  cases hian : m.ian with
  | true => rw [pollNext_ian hian] at h; cases h
  | false =>
    rw [pollNext_live hian] at h ⊢
    obtain ⟨-, hcase, h1⟩ := pollNextPost_pending h
    have hian' : ({ interruptCheck st m with hp := true } : IM).ian = false :=
      (interruptCheck_frame st m).2.trans hian
    rw [h1, pollNext_live hian', pollNext_live hian, interruptCheck_idem st m,
      pollNextPost_absorb u hcase]

/-- a poll that does not answer `Pending` to a pending underlying stream never looked at it -/
theorem pollNext_indep (st : Strat) (m : IM) (u : Under)
    (h : (pollNext st m .pending).2 ≠ .pending) :
    pollNext st m u = pollNext st m .pending := by
  cases hian : m.ian with
  | true => rw [pollNext_ian hian, pollNext_ian hian]
  | false =>
    rw [pollNext_live hian] at h ⊢
    rw [pollNext_live hian]
    exact pollNextPost_indep u h

/-- 1 while a `Pending` poll would still change the machine, 0 once it would not -/
def IM.unsettled (st : Strat) (m : IM) : Nat := if (pollNext st m .pending).1 = m then 0 else 1

theorem IM.unsettled_le (st : Strat) (m : IM) : m.unsettled st ≤ 1 := by
  unfold IM.unsettled; split <;> omega

/-- a `Pending` answer that changes the machine settles it (`pollNext_absorb`) -/
theorem unsettled_pending {st : Strat} {m : IM} {u : Under} (h : (pollNext st m u).2 = .pending)
    (hne : (pollNext st m u).1 ≠ m) : (pollNext st m u).1.unsettled st < m.unsettled st := by
  obtain rfl := (pollNext_pending h).1
  unfold IM.unsettled
  rw [if_pos (congrArg Prod.fst (pollNext_absorb st m .pending h)), if_neg hne]
  exact Nat.zero_lt_one

end FG
