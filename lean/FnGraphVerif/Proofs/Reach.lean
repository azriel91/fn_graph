/-
  Proofs/Reach.lean — edges, reachability, and the executable path test.

  `hasPath g a b = true ↔ Reach g a b` for every well-formed graph and `a < g.n`
  (soundness by induction over the breadth-first loop, completeness from the
  closure invariant, termination within `g.n` rounds by a pigeonhole on the
  duplicate-free visited list).
-/
import FnGraphVerif.Model.Graph
import FnGraphVerif.Proofs.ListFacts
namespace FG

def IsEdge (g : Dag) (u v : Nat) : Prop := ∃ e ∈ g.edges, e.src = u ∧ e.tgt = v

theorem mem_parents {g : Dag} {u v : Nat} : u ∈ parents g v ↔ IsEdge g u v := by
  unfold parents IsEdge
  simp only [List.mem_map, List.mem_filter, List.mem_reverse, beq_iff_eq]
  constructor
  · rintro ⟨e, ⟨he, ht⟩, hs⟩; exact ⟨e, he, hs, ht⟩
  · rintro ⟨e, he, hs, ht⟩; exact ⟨e, ⟨he, ht⟩, hs⟩

theorem mem_children {g : Dag} {u v : Nat} : v ∈ children g u ↔ IsEdge g u v := by
  unfold children IsEdge
  simp only [List.mem_map, List.mem_filter, List.mem_reverse, beq_iff_eq]
  constructor
  · rintro ⟨e, ⟨he, hs⟩, ht⟩; exact ⟨e, he, hs, ht⟩
  · rintro ⟨e, he, hs, ht⟩; exact ⟨e, ⟨he, hs⟩, ht⟩

/-- reflexive-transitive reachability -/
inductive Reach (g : Dag) : Nat → Nat → Prop
  | refl (a) : Reach g a a
  | tail {a w b} : Reach g a w → IsEdge g w b → Reach g a b

/-- reachability through at least one edge -/
inductive ReachP (g : Dag) : Nat → Nat → Prop
  | edge {u v} : IsEdge g u v → ReachP g u v
  | tail {u w v} : ReachP g u w → IsEdge g w v → ReachP g u v

theorem Reach.trans {g : Dag} {a b c : Nat} (h1 : Reach g a b) (h2 : Reach g b c) : Reach g a c := by
  induction h2 with
  | refl => exact h1
  | tail _ he ih => exact Reach.tail ih he

theorem ReachP.trans {g : Dag} {a b c : Nat} (h1 : ReachP g a b) (h2 : ReachP g b c) : ReachP g a c := by
  induction h2 with
  | edge he => exact ReachP.tail h1 he
  | tail _ he ih => exact ReachP.tail ih he

theorem Reach.of_reachP {g : Dag} {a b : Nat} (h : ReachP g a b) : Reach g a b := by
  induction h with
  | edge he => exact Reach.tail (Reach.refl _) he
  | tail _ he ih => exact Reach.tail ih he

theorem Reach.eq_or_reachP {g : Dag} {a b : Nat} (h : Reach g a b) : a = b ∨ ReachP g a b := by
  induction h with
  | refl => exact Or.inl rfl
  | tail _ he ih =>
    rcases ih with rfl | ih
    · exact Or.inr (ReachP.edge he)
    · exact Or.inr (ReachP.tail ih he)

theorem ReachP.head {g : Dag} {a b c : Nat} (he : IsEdge g a b) (h : Reach g b c) : ReachP g a c := by
  induction h with
  | refl => exact ReachP.edge he
  | tail _ he' ih => exact ReachP.tail ih he'

theorem ReachP.first {g : Dag} {a c : Nat} (h : ReachP g a c) : ∃ b, IsEdge g a b ∧ Reach g b c := by
  induction h with
  | edge he => exact ⟨_, he, Reach.refl _⟩
  | tail _ he ih => obtain ⟨b, hab, hbc⟩ := ih; exact ⟨b, hab, Reach.tail hbc he⟩

theorem IsEdge.mono_edges {g g' : Dag} (h : ∀ e ∈ g.edges, e ∈ g'.edges) {u v : Nat}
    (he : IsEdge g u v) : IsEdge g' u v := by
  obtain ⟨e, hm, hs, ht⟩ := he
  exact ⟨e, h e hm, hs, ht⟩

theorem ReachP.congr {g g' : Dag} (h : ∀ u v, IsEdge g u v → IsEdge g' u v) {x y : Nat}
    (hr : ReachP g x y) : ReachP g' x y := by
  induction hr with
  | edge he => exact ReachP.edge (h _ _ he)
  | tail _ he ih => exact ReachP.tail ih (h _ _ he)

theorem Reach.congr {g g' : Dag} (h : ∀ u v, IsEdge g u v → IsEdge g' u v) {x y : Nat}
    (hr : Reach g x y) : Reach g' x y := by
  induction hr with
  | refl => exact Reach.refl _
  | tail _ he ih => exact Reach.tail ih (h _ _ he)

def WF (g : Dag) : Prop := ∀ e ∈ g.edges, e.src < g.n ∧ e.tgt < g.n
def Acyclic (g : Dag) : Prop := ∀ u, ¬ ReachP g u u
/-- at most one edge per ordered pair: neighbour lists are duplicate free -/
def Simple (g : Dag) : Prop := ∀ u, (children g u).Nodup ∧ (parents g u).Nodup

theorem IsEdge.lt {g : Dag} (hwf : WF g) {u v : Nat} (h : IsEdge g u v) : u < g.n ∧ v < g.n := by
  obtain ⟨e, he, rfl, rfl⟩ := h; exact hwf e he

theorem parents_eq_nil_of_ge {g : Dag} (hwf : WF g) {v : Nat} (hv : g.n ≤ v) : parents g v = [] := by
  apply List.eq_nil_iff_forall_not_mem.mpr
  intro p hp
  have := ((mem_parents.mp hp).lt hwf).2
  omega

theorem children_eq_nil_of_ge {g : Dag} (hwf : WF g) {v : Nat} (hv : g.n ≤ v) : children g v = [] := by
  apply List.eq_nil_iff_forall_not_mem.mpr
  intro p hp
  have := ((mem_children.mp hp).lt hwf).1
  omega

theorem Reach.lt {g : Dag} (hwf : WF g) {a b : Nat} (h : Reach g a b) (ha : a < g.n) : b < g.n := by
  induction h with
  | refl => exact ha
  | tail _ he _ => exact (he.lt hwf).2

theorem ReachP.src_lt {g : Dag} (hwf : WF g) {a b : Nat} (h : ReachP g a b) : a < g.n := by
  induction h with
  | edge he => exact (he.lt hwf).1
  | tail _ _ ih => exact ih

theorem ReachP.tgt_lt {g : Dag} (hwf : WF g) {a b : Nat} (h : ReachP g a b) : b < g.n := by
  cases h with
  | edge he => exact (he.lt hwf).2
  | tail _ he => exact (he.lt hwf).2

theorem Acyclic.anti {g g' : Dag} (h : ∀ u v, IsEdge g' u v → IsEdge g u v) (hac : Acyclic g) :
    Acyclic g' := fun u hu => hac u (ReachP.congr h hu)

theorem ReachP.last_edge {g : Dag} {a b : Nat} (h : ReachP g a b) : ∃ w, IsEdge g w b := by
  cases h with
  | edge he => exact ⟨_, he⟩
  | tail _ he => exact ⟨_, he⟩

theorem reachP_iff_child {g : Dag} {u v : Nat} :
    ReachP g u v ↔ ∃ c, IsEdge g u c ∧ (c = v ∨ ReachP g c v) := by
  constructor
  · intro h
    obtain ⟨c, hc, hr⟩ := h.first
    exact ⟨c, hc, hr.eq_or_reachP⟩
  · rintro ⟨c, hc, rfl | hr⟩
    · exact ReachP.edge hc
    · exact ReachP.head hc (Reach.of_reachP hr)

/-- `Fwd g f`: the numbering `f` rises strictly along every edge of `g`.  The one notion behind
    the rank list at loop exit, the position in a topological order (`idxOf ord`), the rank-sorted
    order of `augment`, and "edges go from smaller to larger ids" in the examples
    (existence and induction: `Proofs/Fwd.lean`). -/
def Fwd (g : Dag) (f : Nat → Nat) : Prop := ∀ u v, IsEdge g u v → f u < f v

namespace Fwd
variable {g g' : Dag} {f : Nat → Nat}

theorem reachP (h : Fwd g f) {u v : Nat} (hr : ReachP g u v) : f u < f v := by
  induction hr with
  | edge he => exact h _ _ he
  | tail _ he ih => exact Nat.lt_trans ih (h _ _ he)

theorem reach (h : Fwd g f) {u v : Nat} (hr : Reach g u v) : f u ≤ f v := by
  rcases hr.eq_or_reachP with rfl | hp
  · exact Nat.le_refl _
  · exact Nat.le_of_lt (h.reachP hp)

theorem acyclic (h : Fwd g f) : Acyclic g := fun _ hu => Nat.lt_irrefl _ (h.reachP hu)

theorem anti (h : Fwd g f) (hsub : ∀ u v, IsEdge g' u v → IsEdge g u v) : Fwd g' f :=
  fun u v he => h u v (hsub u v he)

end Fwd

theorem addNew_cons (acc : List Nat) (x : Nat) (xs : List Nat) :
    addNew acc (x :: xs) = addNew (if x ∈ acc then acc else acc ++ [x]) xs := rfl

theorem addNew_prefix (acc xs : List Nat) : ∃ t, addNew acc xs = acc ++ t := by
  induction xs generalizing acc with
  | nil => exact ⟨[], (List.append_nil _).symm⟩
  | cons x xs ih =>
    rw [addNew_cons]
    split
    · exact ih acc
    · obtain ⟨t, ht⟩ := ih (acc ++ [x])
      exact ⟨x :: t, by rw [ht, List.append_assoc]; rfl⟩

theorem mem_addNew {acc xs : List Nat} {y : Nat} : y ∈ addNew acc xs ↔ y ∈ acc ∨ y ∈ xs := by
  induction xs generalizing acc with
  | nil => exact ⟨Or.inl, fun h => h.elim id (fun h => nomatch h)⟩
  | cons x xs ih =>
    rw [addNew_cons, ih, List.mem_cons]
    split
    · rename_i h
      exact ⟨fun h' => h'.imp id Or.inr, fun h' => h'.elim Or.inl fun h' => h'.elim (fun e => Or.inl (e ▸ h)) Or.inr⟩
    · rw [List.mem_append, List.mem_singleton, or_assoc]

theorem addNew_nodup {acc xs : List Nat} (h : acc.Nodup) : (addNew acc xs).Nodup := by
  induction xs generalizing acc with
  | nil => exact h
  | cons x xs ih =>
    rw [addNew_cons]
    split
    · exact ih h
    · rename_i hx
      exact ih (List.nodup_append.mpr ⟨h, List.nodup_singleton x, fun a ha b hb hab =>
        hx (List.mem_singleton.mp hb ▸ hab ▸ ha)⟩)

theorem addNew_eq (vis xs : List Nat) : addNew vis xs = vis ++ newOnes vis xs := by
  obtain ⟨t, ht⟩ := addNew_prefix vis xs
  unfold newOnes; rw [ht]; simp

theorem mem_newOnes {vis xs : List Nat} {y : Nat} (hnd : vis.Nodup) :
    y ∈ newOnes vis xs ↔ y ∉ vis ∧ y ∈ xs := by
  have hnd' : (addNew vis xs).Nodup := addNew_nodup hnd
  have hm := mem_addNew (acc := vis) (xs := xs) (y := y)
  rw [addNew_eq] at hnd' hm
  rw [List.nodup_append] at hnd'
  simp only [List.mem_append] at hm
  constructor
  · intro hy
    refine ⟨fun hv => hnd'.2.2 y hv y hy rfl, ?_⟩
    rcases hm.mp (Or.inr hy) with h | h
    · exact absurd rfl (hnd'.2.2 y h y hy)
    · exact h
  · rintro ⟨hnv, hx⟩
    rcases hm.mpr (Or.inr hx) with h | h
    · exact absurd h hnv
    · exact h

theorem mem_newOnes_sub {vis xs : List Nat} {y : Nat} (h : y ∈ newOnes vis xs) : y ∈ vis ∨ y ∈ xs :=
  mem_addNew.mp (addNew_eq vis xs ▸ List.mem_append_right _ h)

theorem bfs_sound (g : Dag) (a : Nat) : ∀ fuel fr vis,
    (∀ x ∈ vis, Reach g a x) → (∀ x ∈ fr, x ∈ vis) →
    ∀ x ∈ bfsLoop g fuel fr vis, Reach g a x := by
  intro fuel
  induction fuel with
  | zero => intro fr vis hv _ x hx; exact hv x (by simpa [bfsLoop] using hx)
  | succ k ih =>
    intro fr vis hv hfr x hx
    simp only [bfsLoop] at hx
    split at hx
    · exact hv x hx
    · refine ih _ _ (fun y hy => ?_) (fun y hy => List.mem_append_right _ hy) x hx
      rcases List.mem_append.mp hy with h | h
      · exact hv y h
      · rcases mem_newOnes_sub h with h | h
        · exact hv y h
        · obtain ⟨w, hw, hyw⟩ := List.mem_flatMap.mp h
          exact Reach.tail (hv w (hfr w hw)) (mem_children.mp hyw)

/-- invariant of the loop that gives completeness -/
structure BfsInv (g : Dag) (a : Nat) (fuel : Nat) (fr vis : List Nat) : Prop where
  start : a ∈ vis
  frSub : ∀ x ∈ fr, x ∈ vis
  closed : ∀ x ∈ vis, x ∉ fr → ∀ c ∈ children g x, c ∈ vis
  nodup : vis.Nodup
  bound : ∀ x ∈ vis, x < g.n
  budget : g.n + 1 ≤ vis.length + fuel

theorem bfs_complete (g : Dag) (hwf : WF g) (a : Nat) : ∀ fuel fr vis, BfsInv g a fuel fr vis →
    ∀ x, Reach g a x → x ∈ bfsLoop g fuel fr vis := by
  intro fuel
  induction fuel with
  | zero =>
    -- out of fuel is impossible: `vis` is duplicate-free and below `g.n`, and every round adds a node
    intro fr vis hinv
    have := nodup_bounded_length hinv.nodup hinv.bound
    have := hinv.budget
    omega
  | succ k ih =>
    intro fr vis hinv x hx
    -- a child of a visited node is visited already or new in this round
    have hstep : ∀ y ∈ vis, ∀ c ∈ children g y, c ∈ vis ++ newOnes vis (fr.flatMap (children g)) := by
      intro y hy c hc
      by_cases hyf : y ∈ fr
      · by_cases hcv : c ∈ vis
        · exact List.mem_append_left _ hcv
        · exact List.mem_append_right _ ((mem_newOnes hinv.nodup).mpr ⟨hcv, List.mem_flatMap.mpr ⟨y, hyf, hc⟩⟩)
      · exact List.mem_append_left _ (hinv.closed y hy hyf c hc)
    simp only [bfsLoop]
    split
    · rename_i hemp
      -- nothing new: `vis` is closed under `children`
      rw [List.isEmpty_iff.mp hemp, List.append_nil] at hstep
      induction hx with
      | refl => exact hinv.start
      | tail _ he ih2 => exact hstep _ ih2 _ (mem_children.mpr he)
    · rename_i hne
      refine ih _ _ ?_ x hx
      have hnn : (vis ++ newOnes vis (fr.flatMap (children g))).Nodup := by
        rw [← addNew_eq]; exact addNew_nodup hinv.nodup
      refine ⟨List.mem_append.mpr (Or.inl hinv.start), fun y hy => List.mem_append.mpr (Or.inr hy), ?_, hnn, ?_, ?_⟩
      · intro y hy hyn c hc
        exact hstep y ((List.mem_append.mp hy).resolve_right hyn) c hc
      · intro y hy
        rcases List.mem_append.mp hy with h | h
        · exact hinv.bound y h
        · obtain ⟨w, _, hyw⟩ := List.mem_flatMap.mp ((mem_newOnes hinv.nodup).mp h).2
          exact ((mem_children.mp hyw).lt hwf).2
      · have hpos : 0 < (newOnes vis (fr.flatMap (children g))).length := by
          apply List.length_pos_iff.mpr
          intro h; rw [h] at hne; simp at hne
        have := hinv.budget
        simp only [List.length_append]
        omega

/-- soundness of the search needs no hypothesis at all -/
theorem reachSet_sound {g : Dag} {a b : Nat} (h : b ∈ reachSet g a) : Reach g a b :=
  bfs_sound g a g.n [a] [a] (fun _ hx => List.mem_singleton.mp hx ▸ Reach.refl _) (fun _ hx => hx) b h

theorem mem_reachSet {g : Dag} (hwf : WF g) {a b : Nat} (ha : a < g.n) : b ∈ reachSet g a ↔ Reach g a b := by
  refine ⟨reachSet_sound, fun h => ?_⟩
  apply bfs_complete g hwf a g.n [a] [a] _ b h
  refine ⟨List.mem_singleton_self a, fun x hx => hx, fun x hx hxn => absurd hx hxn, List.nodup_singleton a,
    fun x hx => List.mem_singleton.mp hx ▸ ha, Nat.le_of_eq (Nat.add_comm _ _)⟩

/-- the executable path test decides reachability -/
theorem hasPath_iff_reach {g : Dag} (hwf : WF g) {a : Nat} (ha : a < g.n) (b : Nat) :
    hasPath g a b = true ↔ Reach g a b := by
  unfold hasPath
  rw [decide_eq_true_iff]
  exact mem_reachSet hwf ha

theorem hasPath_false_iff {g : Dag} (hwf : WF g) {a : Nat} (ha : a < g.n) (b : Nat) :
    hasPath g a b = false ↔ ¬ Reach g a b := by
  rw [← hasPath_iff_reach hwf ha b]; cases hasPath g a b <;> simp

theorem hasPath_sound {g : Dag} {a b : Nat} (h : hasPath g a b = true) : Reach g a b :=
  reachSet_sound (of_decide_eq_true h)

theorem hasPath_of_reachP {g : Dag} (hwf : WF g) {u v : Nat} (h : ReachP g u v) : hasPath g u v = true :=
  (hasPath_iff_reach hwf (h.src_lt hwf) v).mpr (Reach.of_reachP h)

def addE (g : Dag) (e : Edge) : Dag := { g with edges := g.edges ++ [e] }

theorem isEdge_addE {g : Dag} {e : Edge} {u v : Nat} :
    IsEdge (addE g e) u v ↔ IsEdge g u v ∨ (u = e.src ∧ v = e.tgt) := by
  unfold IsEdge addE
  simp only [List.mem_append, List.mem_singleton]
  constructor
  · rintro ⟨e', he | he, hs, ht⟩
    · exact Or.inl ⟨e', he, hs, ht⟩
    · subst he; exact Or.inr ⟨hs.symm, ht.symm⟩
  · rintro (⟨e', he, hs, ht⟩ | ⟨hu, hv⟩)
    · exact ⟨e', Or.inl he, hs, ht⟩
    · exact ⟨e, Or.inr rfl, hu.symm, hv.symm⟩

theorem Reach.mono_addE {g : Dag} {e : Edge} {x y : Nat} (h : Reach g x y) : Reach (addE g e) x y :=
  h.congr fun _ _ he => isEdge_addE.mpr (Or.inl he)

theorem ReachP.mono_addE {g : Dag} {e : Edge} {x y : Nat} (h : ReachP g x y) : ReachP (addE g e) x y :=
  h.congr fun _ _ he => isEdge_addE.mpr (Or.inl he)

theorem reachP_addE {g : Dag} {e : Edge} {x y : Nat} (h : ReachP (addE g e) x y) :
    ReachP g x y ∨ (Reach g x e.src ∧ Reach g e.tgt y) := by
  induction h with
  | edge he =>
    rcases isEdge_addE.mp he with he | ⟨rfl, rfl⟩
    · exact Or.inl (ReachP.edge he)
    · exact Or.inr ⟨Reach.refl _, Reach.refl _⟩
  | tail _ he ih =>
    rcases isEdge_addE.mp he with he | ⟨rfl, rfl⟩
    · rcases ih with ih | ⟨h1, h2⟩
      · exact Or.inl (ReachP.tail ih he)
      · exact Or.inr ⟨h1, Reach.tail h2 he⟩
    · rcases ih with ih | ⟨h1, _⟩
      · exact Or.inr ⟨Reach.of_reachP ih, Reach.refl _⟩
      · exact Or.inr ⟨h1, Reach.refl _⟩

theorem acyclic_addE {g : Dag} {e : Edge} (hac : Acyclic g) (hnr : ¬ Reach g e.tgt e.src) :
    Acyclic (addE g e) := by
  intro u hu
  rcases reachP_addE hu with h | ⟨h1, h2⟩
  · exact hac u h
  · exact hnr (Reach.trans h2 h1)

/-- conversely the rejected edge really would close a cycle -/
theorem cyclic_addE {g : Dag} {e : Edge} (hr : Reach g e.tgt e.src) : ¬ Acyclic (addE g e) :=
  fun hac => hac _ (ReachP.head (isEdge_addE.mpr (Or.inr ⟨rfl, rfl⟩)) hr.mono_addE)

end FG
