/-
  Proofs/PredCoupling.lean — the coupling between the state `PredSt` of the specification predicates
  and the state of the model along an `ObsRun`, kept by every model step, with the notes the step
  emits (`pred_step`), and the induction over the run (`preds_run`).

  `ListsCoupled` is the part that needs nothing of the start state: the observed lists are the model's lists.
  `Coupled` adds, for a run from `initWith x.c s0 r0 k0` (`init` is `initWith _ false false 0`), what
  the guards of `Note.Open` stand for: `clean` (under `K` the predicate state knows of a carried
  signal) and the ghost fields `intrSome`, `first` (under `G`: where in the run from `init` the first
  signal was sent; the C08 theorems are about such runs).
-/
import FnGraphVerif.Theorems.CarriedIntr
import FnGraphVerif.Theorems.C08Invoke
import FnGraphVerif.Proofs.SpecFacts
import FnGraphVerif.Proofs.CouplingFacts
import FnGraphVerif.Proofs.PredEvents
namespace FG

structure ListsCoupled (x : MonCtx) (start : PState) (m : PredSt) (s : PState) (as : List Action) : Prop where
  hrun : run x.c start as = some s
  ho : m.realHandout = s.handedOut
  inv : m.realInvoked = s.invoked
  eok : m.realEndedOk = s.endedOk
  fl : m.realFailed = s.failed
  ended : ∀ f, f ∈ m.realEnded ↔ (f ∈ s.endedOk ∨ f ∈ s.failed)
  intrNone : m.intrAt = none → ∀ a ∈ as, a ≠ Action.interrupt

variable {x : MonCtx} {start : PState} {m : PredSt} {s s1 : PState} {as : List Action}

theorem ListsCoupled.mem_realInflight (hinv : Inv0 x.c s) (h : ListsCoupled x start m s as) {f : Nat} :
    f ∈ m.realInflight ↔ (f ∈ s.inflight ∧ f ∈ s.invoked) := by
  unfold PredSt.realInflight
  simp only [List.mem_filter, decide_eq_true_eq, h.inv, h.ended]
  constructor
  · rintro ⟨h1, h2⟩
    exact ⟨(hinv.handedSplit f (hinv.invHanded f h1)).resolve_right h2, h1⟩
  · rintro ⟨h1, h2⟩
    have := hinv.inflNotEnded f h1
    exact ⟨h2, fun h3 => h3.elim this.1 this.2⟩

theorem ListsCoupled.realInflight_nodup (hinv : Inv0 x.c s) (h : ListsCoupled x start m s as) : m.realInflight.Nodup := by
  unfold PredSt.realInflight
  rw [h.inv]
  exact hinv.invNodup.filter _

theorem ListsCoupled.realInflight_nil (hinv : Inv0 x.c s) (h : ListsCoupled x start m s as) (hi : s.inflight = []) :
    m.realInflight = [] :=
  List.eq_nil_iff_forall_not_mem.mpr fun f hf => by
    have := ((h.mem_realInflight hinv).mp hf).1
    rw [hi] at this
    cases this

/-- **the lists stay coupled over every step**: the predicates read off the events of the step
    what the step appends to the model's lists -/
theorem ListsCoupled.of_step (h : ListsCoupled x start m s as) {a : Action} (hs : step? x.c s a = some s1) :
    ListsCoupled x start (predRun x m (stepEvents x.c x.control s a s1)).1 s1 (as ++ [a]) := by
  obtain ⟨ho, inv, eok, fl, hl, ol⟩ := stepEvents_lists (ctl := x.control) hs
  refine ⟨run_snoc h.hrun hs, ?_, ?_, ?_, ?_, fun f => ?_, ?_⟩
  · rw [predRun_field_eq_filterMap x (predFut_realHandout x), ol.ho, hl.ho, h.ho]
  · rw [predRun_field_eq_filterMap x (predFut_realInvoked x), ol.inv, hl.inv, h.inv]
  · rw [predRun_field_eq_filterMap x (predFut_realEndedOk x), ol.eok, hl.eok, h.eok]
  · rw [predRun_field_eq_filterMap x (predFut_realFailed x), ol.fl, hl.fl, h.fl]
  · rw [predRun_field_eq_filterMap x (predFut_realEnded x), List.mem_append, h.ended, mem_filterMap_ended, ol.eok,
      ol.fl, hl.eok, hl.fl, List.mem_append, List.mem_append]
    exact or_or_or_comm
  · intro hn b hb
    -- `interrupt` makes `intrAt` a `some`
    have ha : a ≠ .interrupt := by
      rintro rfl
      rw [stepEvents_interrupt, predRun_singleton,
        predFut_intr_fst] at hn
      revert hn
      cases m.intrAt <;> simp
    rcases List.mem_append.mp hb with hb | hb
    · exact h.intrNone ((predRun_keeps x (stepEvents_no_intr ha) m).1 ▸ hn) b hb
    · rw [List.mem_singleton.mp hb]; exact ha

/-- `schedPoll`: C03 (no second hand-out) -/
theorem notes_schedPoll (hinv : Inv0 x.c s) (h : ListsCoupled x start m s as)
    (hs : step? x.c s .schedPoll = some s1) :
    ∀ n ∈ (predRun x m (stepEvents x.c x.control s .schedPoll s1)).2, n.ok = true := by
  rcases stepEvents_schedPoll (ctl := x.control) hs with ⟨hev, -⟩ | ⟨f, rest, hq, hev, -⟩
  · rw [hev]
    exact fun n hn => nomatch hn
  · rw [hev, predRun_singleton]
    exact predFut_handout_ok x m f (by rw [h.ho]; exact (hinv.head_not_handed hq).2.1)

/-- `finish`: C07 at the failure — a function ordered after `f` is handed out only after `f` ended
    ok, and `f` is still in flight -/
theorem notes_finish (hinv : Inv0 x.c s) (h : ListsCoupled x start m s as) {f : Nat} {ok : Bool}
    (hs : step? x.c s (.finish f ok) = some s1) :
    ∀ n ∈ (predRun x m (stepEvents x.c x.control s (.finish f ok) s1)).2, n.ok = true := by
  rw [stepEvents_finish, predRun_singleton]
  refine predFut_fin_ok x m f ok fun _ g hg => ?_
  rw [h.inv] at hg
  cases hrp : reachPlus x.c.D f g with
  | false => rfl
  | true =>
    exact absurd (hinv.ancestors_ended (Or.inr (Or.inl (hinv.invHanded g hg)))
      (reachPlus_sound hrp)) (hinv.inflNotEnded f (step_finish_iff.mp hs).1.1).1

/-- the guard `C` of `Note.Open`: an interrupting strategy that starts nothing once a signal is
    there, and a signal carried into the run -/
def CarriedSignalStops (c : Cfg) (s0 r0 : Bool) : Prop :=
  (c.strat = .finish ∨ c.strat = .pollN 0) ∧ (r0 = true ∨ s0 = true)

/-- `intrSome`: the first `interrupt` of the run was sent after `k = intrAt` starts, at a state `sI`
    in which every handed-out function had been started (`hquiet` of `ObsRun.step`), and `intrPre`
    says that nothing had happened before it; `first`: no event seen, nothing has happened. -/
structure Coupled (x : MonCtx) (s0 r0 : Bool) (k0 : Nat) (K G : Prop) (m : PredSt) (s : PState)
    (as : List Action) : Prop extends ListsCoupled x (initWith x.c s0 r0 k0) m s as where
  clean : K → m.intrAt = none → s0 = false ∧ r0 = false
  fresh : G → s0 = false ∧ r0 = false ∧ k0 = 0
  intrSome : G → ∀ k, m.intrAt = some k → ∃ pre rest sI, as = pre ++ Action.interrupt :: rest ∧
      (∀ a ∈ pre, a ≠ Action.interrupt) ∧ run x.c (initWith x.c s0 r0 k0) pre = some sI ∧
      (∀ f ∈ sI.inflight, f ∈ sI.invoked) ∧ sI.invoked.length = k ∧
      (m.intrPre = true → pre = [] ∨ x.c.n = 0)
  first : G → m.nEv = 0 → as = [] ∨ x.c.n = 0

/-- a predicate state that has seen no hand-out / start / completion yet (its interrupt fields
    `intrAt`, `intrPre`, `intrQuiescent` and its event counter are arbitrary) -/
structure PredSt.Fresh (m : PredSt) : Prop where
  ho : m.realHandout = []
  inv : m.realInvoked = []
  ended : m.realEnded = []
  eok : m.realEndedOk = []
  fl : m.realFailed = []

theorem PredSt.fresh_empty : PredSt.Fresh {} := ⟨rfl, rfl, rfl, rfl, rfl⟩

theorem coupled_init (x : MonCtx) (s0 r0 : Bool) (k0 : Nat) {K G : Prop} {m : PredSt} (hm : m.Fresh)
    (hclean : K → m.intrAt = none → s0 = false ∧ r0 = false)
    (hfresh : G → (s0 = false ∧ r0 = false ∧ k0 = 0) ∧ m.intrAt = none) :
    Coupled x s0 r0 k0 K G m (initWith x.c s0 r0 k0) [] where
  hrun := rfl
  ho := hm.ho
  inv := hm.inv
  eok := hm.eok
  fl := hm.fl
  ended := by intro f; rw [hm.ended]; simp [initWith, init]
  intrNone := fun _ a ha => nomatch ha
  clean := hclean
  fresh := fun hG => (hfresh hG).1
  intrSome := fun hG k hk => by rw [(hfresh hG).2] at hk; cases hk
  first := fun _ _ => .inl rfl

variable {s0 r0 : Bool} {k0 : Nat} {K G : Prop}

theorem Coupled.reach (h : Coupled x s0 r0 k0 K G m s as) : ReachableW x.c s0 r0 k0 s :=
  ReachableFrom.of_run .refl h.hrun

theorem Coupled.inv0 (hx : GoodCtx x) (h : Coupled x s0 r0 k0 K G m s as) : Inv0 x.c s :=
  inv0_reachableW hx.good h.reach

theorem Coupled.fresh_run (h : Coupled x s0 r0 k0 K G m s as) (hG : G) :
    run x.c (init x.c) as = some s ∧ Reachable x.c s := by
  obtain ⟨rfl, rfl, rfl⟩ := h.fresh hG
  have hr := h.hrun
  rw [initWith_fresh] at hr
  exact ⟨hr, Reachable.of_run .init hr⟩

theorem Coupled.noSignal (h : Coupled x s0 r0 k0 K G m s as) (hK : K) (hi : m.intrAt = none) :
    s.im.sent = false ∧ s.im.recv = false := by
  obtain ⟨h1, h2⟩ := h.clean hK hi
  subst h1; subst h2
  have := run_noSignal (h.intrNone hi) (noSignal_initWith x.c k0) h.hrun
  exact ⟨this.1, this.2.1⟩

/-- `Coupled` over a step other than `interrupt`: `ListsCoupled.of_step` and the fields it does not have -/
theorem Coupled.of_step (hx : GoodCtx x) (h : Coupled x s0 r0 k0 K G m s as) {a : Action}
    (hs : step? x.c s a = some s1) (ha : a ≠ .interrupt) :
    Coupled x s0 r0 k0 K G (predRun x m (stepEvents x.c x.control s a s1)).1 s1 (as ++ [a]) := by
  obtain ⟨hat, hpre, hn⟩ := predRun_keeps x (stepEvents_no_intr (c := x.c) (ctl := x.control) (s := s) (s1 := s1) ha) m
  refine { h.toListsCoupled.of_step hs with
    clean := fun hK hi => h.clean hK (hat ▸ hi), fresh := h.fresh, intrSome := ?_, first := ?_ }
  · intro hG k hk
    rw [hat] at hk
    obtain ⟨pre, rest, sI, e1, e2, e3, e4, e5, e6⟩ := h.intrSome hG k hk
    exact ⟨pre, rest ++ [a], sI, by rw [e1]; simp, e2, e3, e4, e5, by rw [hpre]; exact e6⟩
  · -- the first step from `init` shows an event
    intro hG h0
    -- no event counted after the step: none before it, and the step shows none
    obtain ⟨hm0, hlen⟩ := Nat.add_eq_zero_iff.mp (hn ▸ h0)
    have hev : stepEvents x.c x.control s a s1 = [] := List.eq_nil_of_length_eq_zero hlen
    rcases h.first hG hm0 with he | he
    · by_cases hn0 : x.c.n = 0
      · exact .inr hn0
      · subst he
        have hinit : s = init x.c := by simpa [run] using (h.fresh_run hG).1.symm
        subst hinit
        exact (init_step_visible hx.good hn0 x.control hs hev).elim
    · exact .inr he

/-- what is shown of one step: the coupling after it, and what may be open of its notes -/
def PredStep (x : MonCtx) (s0 r0 : Bool) (k0 : Nat) (P K G : Prop) (m : PredSt) (s : PState) (a : Action)
    (s1 : PState) (as : List Action) : Prop :=
  Coupled x s0 r0 k0 K G (predRun x m (stepEvents x.c x.control s a s1)).1 s1 (as ++ [a]) ∧
  ∀ n ∈ (predRun x m (stepEvents x.c x.control s a s1)).2,
    n.ok = true ∨ n.Open P K G (CarriedSignalStops x.c s0 r0)

variable {P : Prop}

theorem pred_interrupt (h : Coupled x s0 r0 k0 K G m s as) (hs : step? x.c s .interrupt = some s1)
    (hquiet : ∀ f ∈ s.inflight, f ∈ s.invoked) : PredStep x s0 r0 k0 P K G m s .interrupt s1 as := by
  unfold PredStep
  rw [stepEvents_interrupt, predRun_singleton]
  refine ⟨?_, by rw [predFut_intr_snd]; exact fun n hn => nomatch hn⟩
  rw [predFut_intr_fst]
  have hsome : (match m.intrAt with | none => some m.realInvoked.length | y => y) ≠ none := by
    cases m.intrAt <;> simp
  have g : ListsCoupled x _ (predFut x m .intr).1 s1 (as ++ [.interrupt]) := h.toListsCoupled.of_step hs
  rw [predFut_intr_fst] at g
  refine { g with
    clean := fun _ hn => absurd hn hsome, fresh := h.fresh, intrSome := ?_, first := fun _ h0 => by simp at h0 }
  intro hG k hk
  simp only at hk
  cases hi : m.intrAt with
  | none =>
    -- the first signal: sent here, at a point where everything handed out has been started
    rw [hi] at hk
    simp only [Option.some.injEq] at hk
    refine ⟨as, [], s, rfl, h.intrNone hi, h.hrun, hquiet, by rw [← hk, h.inv], ?_⟩
    intro hp
    simp only [Option.isNone_none, if_true, beq_iff_eq] at hp
    exact h.first hG hp
  | some k1 =>
    rw [hi] at hk
    simp only [Option.some.injEq] at hk
    subst hk
    obtain ⟨pre, rest, sI, e1, e2, e3, e4, e5, e6⟩ := h.intrSome hG k1 hi
    refine ⟨pre, rest ++ [.interrupt], sI, by rw [e1]; simp, e2, e3, e4, e5, ?_⟩
    intro hp
    simp only [Option.isNone_some, Bool.false_eq_true, if_false] at hp
    exact e6 hp

theorem boundOf_noPre_eq_intrBound {st : Strat} {incl : Bool} {b : Nat} (hb : boundOf st incl false = some b) :
    (st = .finish ∨ ∃ k, st = .pollN k) ∧ b = intrBound st incl := by
  rcases boundOf_eq_some hb with ⟨rfl | rfl, rfl⟩ | ⟨k, rfl, rfl⟩
  · exact ⟨.inl rfl, by cases incl <;> rfl⟩
  · exact ⟨.inr ⟨0, rfl⟩, by cases incl <;> rfl⟩
  · exact ⟨.inr ⟨k + 1, rfl⟩, rfl⟩

theorem boundOf_pre_cases {st : Strat} {incl : Bool} {b : Nat} (hb : boundOf st incl true = some b) :
    ((st = .finish ∨ st = .pollN 0) ∧ b = 0) ∨ (∃ k, st = .pollN (k + 1) ∧ b = k + 1) :=
  (boundOf_eq_some hb).imp_left fun h => ⟨h.1, by rw [h.2]; cases incl <;> rfl⟩

/-- C08 as the predicates state it: after a first signal sent at a state `sI` where every handed-out
    function had been started, at most `boundOf` functions are started; `ip` ("the signal was there
    before the call") selects the bound of a presignalled run, which hands out nothing under
    `FinishCurrent` / `PollNextN(0)` -/
theorem starts_after_signal_le_boundOf {c : Cfg} (hc : GoodCfg c) {pre rest : List Action} {sI s1 : PState}
    {ip : Bool} {b : Nat} (d2 : ∀ a ∈ pre, a ≠ Action.interrupt) (d3 : run c (init c) pre = some sI)
    (d4 : ∀ f ∈ sI.inflight, f ∈ sI.invoked) (d6 : ip = true → pre = [] ∨ c.n = 0)
    (hrun : run c (init c) (pre ++ .interrupt :: rest) = some s1)
    (hb : boundOf c.strat c.incl ip = some b) :
    s1.invoked.length - sI.invoked.length ≤ b := by
  have hbound : (c.strat = .finish ∨ ∃ k, c.strat = .pollN k) →
      s1.invoked.length - sI.invoked.length ≤ intrBound c.strat c.incl :=
    fun hst => starts_after_first_interrupt_le c hst d2 d3 d4 hrun
  cases ip with
  | false =>
    obtain ⟨hst, rfl⟩ := boundOf_noPre_eq_intrBound hb
    exact hbound hst
  | true =>
    rcases boundOf_pre_cases hb with ⟨hst, rfl⟩ | ⟨j, hst, rfl⟩
    · -- nothing is ever handed out, so nothing is started
      have hinv := inv0_reachable hc (Reachable.of_run .init hrun)
      have hho : s1.handedOut = [] := by
        rcases d6 rfl with h0 | h0
        · subst h0; exact (presignalled_bound c rest (by simpa using hrun)).1 hst
        · exact List.eq_nil_iff_forall_not_mem.mpr fun f hf =>
            absurd (h0 ▸ hinv.handed_lt hf) (Nat.not_lt_zero f)
      have hnil : s1.invoked = [] := List.eq_nil_iff_forall_not_mem.mpr fun f hf => by
        have := hinv.invHanded f hf; rw [hho] at this; cases this
      rw [hnil]; simp
    · have := hbound (Or.inr ⟨j + 1, hst⟩)
      rwa [hst] at this

/-- `invoke`: C03 (no double start), C01, C02, C07, C10 from the invariants; the C08 bound on starts
    after the signal from the ghost fields (`G`), or because nothing is ever started (`CarriedSignalStops`) -/
theorem pred_invoke (hx : GoodCtx x) (h : Coupled x s0 r0 k0 K G m s as) {f : Nat}
    (hs : step? x.c s (.invoke f) = some s1) : PredStep x s0 r0 k0 P K G m s (.invoke f) s1 as := by
  have hr := h.reach
  have hinv := h.inv0 hx
  obtain ⟨hf1, hf2, e⟩ := step_invoke_iff.mp hs
  have hfh : f ∈ s.handedOut := hinv.inflHanded f hf1
  refine ⟨h.of_step hx hs (by simp), ?_⟩
  rw [stepEvents_invoke, predRun_singleton]
  have hlen : m.realInflight.length + 1 ≤ s.inflight.length := by
    have hnd : (f :: m.realInflight).Nodup :=
      List.nodup_cons.mpr ⟨fun hm => hf2 ((h.mem_realInflight hinv).mp hm).2, h.realInflight_nodup hinv⟩
    have hsub : (f :: m.realInflight) ⊆ s.inflight := by
      intro g hg
      rcases List.mem_cons.mp hg with rfl | hg
      · exact hf1
      · exact ((h.mem_realInflight hinv).mp hg).1
    simpa using List.Nodup.length_le_of_subset hnd hsub
  apply predFut_invoke_spec
  case h3 =>
    rw [h.inv]; exact hf2
  case h1 =>
    refine hx.no_conflict (hinv.handed_lt hfh) fun u hu => ?_
    have hu' := ((h.mem_realInflight hinv).mp hu).1
    exact ⟨hinv.handed_lt (hinv.inflHanded u hu'), hinv.no_ancestor_inflight hu' hf1,
      hinv.no_ancestor_inflight hf1 hu'⟩
  case h2 =>
    intro u hu
    rw [h.eok]
    exact hinv.ancestors_ended (Or.inr (Or.inl hfh)) ((reachPlus_sound hu).congr hx.userSub)
  case h1b =>
    intro p hp
    rw [h.eok]
    exact hinv.ancestors_ended (Or.inr (Or.inl hfh)) (.edge (mem_parents.mp hp))
  case h7 =>
    intro y hy
    rw [h.fl] at hy
    cases hrp : reachPlus x.c.D y f with
    | false => rfl
    | true => exact absurd hfh (hinv.no_successor_of_failed hy (reachPlus_sound hrp)).1
  case h7c =>
    intro y hy
    rw [h.fl] at hy
    exact (em (y = f)).imp_right (hinv.failed_no_conflict_unstarted x.decls hx.ordered hy hfh hf2)
  case h10s =>
    exact fun hseq => hlen.trans (hinv.limSeq hseq)
  case h10p =>
    exact fun hseq l hl => hlen.trans (hinv.limPar hseq l hl)
  case h8 =>
    rintro (hG | ⟨hst, h0⟩) k b hk hb
    · -- split the run at its first `interrupt` (`intrSome`); the starts after it are bounded
      obtain ⟨pre, rest, sI, d1, d2, d3, d4, d5, d6⟩ := h.intrSome hG k hk
      obtain ⟨rfl, rfl, rfl⟩ := h.fresh hG
      rw [initWith_fresh] at d3
      have hrun' : run x.c (init x.c) (pre ++ .interrupt :: (rest ++ [.invoke f])) = some s1 := by
        have hrun1 := run_snoc (h.fresh_run hG).1 hs
        rw [d1] at hrun1
        simpa using hrun1
      have := starts_after_signal_le_boundOf hx.good d2 d3 d4 d6 hrun' hb
      rwa [d5, e, ← h.inv, List.length_append] at this
    · -- under `CarriedSignalStops` nothing is ever handed out
      rw [(carried_finish_nothing hst h0 hr).1] at hfh
      cases hfh

/-- work conservation as the monitor evaluates it: `allBlockedB` of the started and the ok-ended -/
theorem work_conserving_allBlockedW {c : Cfg} {s0 r0 : Bool} {k0 : Nat} (hc : GoodCfg c)
    (hr : ReachableW c s0 r0 k0 s) (hq : Quiescent c s) (hul : underLimit c s = true)
    (hni : s.im.sent = false ∧ s.im.recv = false) (hf : s.failed = []) :
    allBlockedB c s.invoked s.endedOk = true :=
  allBlockedB_of_started fun _ hv hp => (work_conserving (.of_reachableW hc hr) hq hul hni.2 hf hv hp).2

/-- the `q` observation: C04 (no deadlock), the "never returns" clauses, and work conservation
    (C06, C10: idle under the limit, every ready function has been started) under `K` -/
theorem pred_q (hx : GoodCtx x) (h : Coupled x s0 r0 k0 K G m s as) (hq : Quiescent x.c s)
    (hres : s.result = none) :
    Coupled x s0 r0 k0 K G (predFut x m .q).1 s as ∧
    ∀ n ∈ (predFut x m .q).2, n.ok = true ∨ n.Open P K G (CarriedSignalStops x.c s0 r0) := by
  have hr := h.reach
  have hinv := h.inv0 hx
  -- at a quiescent point the observed in-flight functions are the model's
  have hmem : ∀ f ∈ s.inflight, f ∈ m.realInflight := fun f hf =>
    (h.mem_realInflight hinv).mpr ⟨hf, quiescent_invoke_quiet hq hres f hf⟩
  refine ⟨?_, predFut_q_spec _ _ _ _ x m ?_ ?_⟩
  · rw [predFut_q_fst]
    exact { h with first := fun _ h0 => by simp at h0 }
  · cases hi : s.inflight with
    | nil =>
      have := deadlock_freeW hx.good hr hq hi
      rw [hres] at this
      cases this
    | cons f l =>
      intro hn
      have := hmem f (by rw [hi]; simp)
      rw [hn] at this
      cases this
  · intro hK hi hf hseq hlim
    rw [h.fl] at hf
    have hul : underLimit x.c s = true := by
      rcases hlim with hl | hl | ⟨l, hl, hlt⟩
      · exact underLimit_unlimited hseq (.inl hl)
      · exact underLimit_unlimited hseq (.inr hl)
      · have := List.Nodup.length_le_of_subset hinv.inflNodup hmem
        exact (underLimit_par_iff hseq hl).mpr (by omega)
    rw [h.inv, h.eok]
    exact work_conserving_allBlockedW hx.good hr hq hul (h.noSignal hK hi) hf

/-- C08, `NonInterruptible` / `IgnoreInterruptions`: a signal changes nothing.  The run without its
    `interrupt`s ends in the same lists, and a clean return hands out everything. -/
theorem noop_return_all {c : Cfg} (hc : GoodCfg c) (hst : c.strat = .non ∨ c.strat = .ignore)
    {as : List Action} {s : PState} {r : Ret} (hrun : run c (init c) as = some s)
    (hres : s.result = some r) (hf : s.failed = []) : s.handedOut.Perm (List.range c.n) := by
  have hmap := interrupt_only_removes_map c hst as
  rw [hrun] at hmap
  cases ht : run c (init c) (as.filter (· ≠ Action.interrupt)) with
  | none => rw [ht] at hmap; cases hmap
  | some t =>
    rw [ht] at hmap
    have e : ({ s with im := {} } : PState) = { t with im := {} } := Option.some.inj hmap
    have hHanded : s.handedOut = t.handedOut := congrArg (·.handedOut) e
    have hFailed : s.failed = t.failed := congrArg (·.failed) e
    have hResult : s.result = t.result := congrArg (·.result) e
    have hpre : t.im.NoSignal :=
      run_noSignal (fun a ha => by simpa using (List.mem_filter.mp ha).2) (initWith_fresh c ▸ noSignal_initWith c 0) ht
    exact hHanded ▸ clean_return_all hc (Reachable.of_run .init ht) (hResult ▸ hres) hpre.2.1 (hFailed ▸ hf)

/-- the `flow` text of a `*_control` API is "cont" exactly for a complete run without errors -/
theorem flow_ok (control fnd : Bool) (p np errs : List Nat) :
    ((if control then (if (Ret.outcome fnd p np errs).isBreak then "break" else "cont") else "na") == "na"
      || (((if control then (if (Ret.outcome fnd p np errs).isBreak then "break" else "cont") else "na") == "cont")
          == (fnd && errs.isEmpty))) = true := by
  -- the text depends on `isBreak` alone, and "complete without errors" is its negation
  have hb : (fnd && errs.isEmpty) = !(Ret.outcome fnd p np errs).isBreak := by
    show _ = !(!errs.isEmpty || !fnd)
    cases fnd <;> cases errs.isEmpty <;> rfl
  rw [hb]
  generalize (Ret.outcome fnd p np errs).isBreak = b
  cases control
  · rfl
  · cases b <;> decide

/-- the `ret` step: C04 (nothing in flight at the return), C07 (errors / first error), C08
    started-all-reported, C09; C03 clean-all under `K`; C09 "processed=started" under `P`; C08
    "a signal changes nothing" for runs from `init` (`G`) -/
theorem pred_ret (hx : GoodCtx x) (h : Coupled x s0 r0 k0 K G m s as) (hs : step? x.c s .ret = some s1)
    {i j : List Nat} (hP : P → (s.invoked ++ i) <+: (s.handedOut ++ j)) :
    PredStep x s0 r0 k0 P K G m s .ret s1 as := by
  have hr := h.reach
  have hinv0 := h.inv0 hx
  have hinv := inv_reachableW hx.good hx.api hr
  have hr1 : ReachableW x.c s0 r0 k0 s1 := ReachableFrom.step .ret hr hs
  obtain ⟨hsd, _, _, e⟩ := step_ret_iff.mp hs
  have hinfl : s.inflight = [] := hinv.sDoneInfl hsd
  have hri : m.realInflight = [] := h.realInflight_nil hinv0 hinfl
  refine ⟨h.of_step hx hs (by simp), ?_⟩
  cases hse : s.shortErr with
  | some f =>
    rw [stepEvents_ret_err (by rw [e, mkRet_short hse]), predRun_singleton]
    refine fun n hn => .inl ?_
    obtain ⟨hmode, hfl, _, _, _⟩ := hinv.shortCircuit_first_error hse
    refine predFut_retErr_ok x m f hri (by rw [h.fl]; exact hfl) ?_ n hn
    rw [h.inv]
    exact (seqLast_reachableW hx.good (hx.api hmode) hr).short f hse
  | none =>
    have hres1 : s1.result = some (.outcome (s.sRemaining == 0) s.handedOut
        ((List.range x.c.n).filter (fun v => decide (v ∉ s.handedOut))) s.errors) := by
      rw [e, mkRet_noShort hse]
    rw [stepEvents_ret_outcome hres1, predRun_singleton]
    have hperm := hinv0.invoked_perm_handedOut hinfl
    have hallperm : s.handedOut.Perm (List.range x.c.n) → isPermOfRange m.realInvoked x.c.n = true :=
      fun hp => by rw [h.inv]; exact isPermOfRange_iff.mpr (hperm.trans hp)
    apply predFut_retOutcome_spec
    case hi =>
      exact hri
    case hproc =>
      intro hp
      rw [h.inv]
      exact (eq_of_append_prefix (hP hp) hperm.length_eq).symm
    case hnp =>
      rfl
    case hst =>
      -- `fns_remaining = 0` iff every function was handed out
      rw [Bool.eq_iff_iff, beq_iff_eq, beq_iff_eq, ← hinv0.sRemaining_add_handedOut hinfl hse]
      exact ⟨fun h0 => by rw [h0, Nat.zero_add], fun hb => Nat.add_eq_right.mp hb.symm⟩
    case hflow =>
      exact flow_ok _ _ _ _ _
    case herr =>
      rw [h.fl]
      exact hinv0.errors_eq_failed hse
    case hsub =>
      intro f hf
      rw [h.inv] at hf
      exact hinv0.invHanded f hf
    case hclean =>
      intro hK hi hf
      have hrecv : s1.im.recv = false := by rw [e]; exact (h.noSignal hK hi).2
      have := clean_return_allW hx.good hr1 hres1 hrecv (by rw [e, ← h.fl]; exact hf)
      rw [e] at this
      exact hallperm this
    case hnoop =>
      rintro (hG | ⟨hc, _⟩) hst hf
      · have := noop_return_all hx.good hst (run_snoc (h.fresh_run hG).1 hs) hres1
          (by rw [e, ← h.fl]; exact hf)
        rw [e] at this
        exact hallperm this
      · -- `CarriedSignalStops` needs `finish` / `pollN 0`, the noop note `non` / `ignore`
        rcases hc with hc | hc <;> rcases hst with hst | hst <;> rw [hc] at hst <;> cases hst

/-- one model step: the coupling is kept; `P` is only needed at the return, where it says that the
    closures were started in hand-out order -/
theorem pred_step (hx : GoodCtx x) (h : Coupled x s0 r0 k0 K G m s as) {a : Action}
    (hs : step? x.c s a = some s1) (hquiet : a = .interrupt → ∀ f ∈ s.inflight, f ∈ s.invoked)
    {i j : List Nat} (hP : P → (s.invoked ++ i) <+: (s.handedOut ++ j)) :
    PredStep x s0 r0 k0 P K G m s a s1 as := by
  have hinv := h.inv0 hx
  cases a with
  | queuerRecv => exact ⟨h.of_step hx hs (by simp), fun n hn => nomatch hn⟩
  | queuerEnd => exact ⟨h.of_step hx hs (by simp), fun n hn => nomatch hn⟩
  | schedEnd => exact ⟨h.of_step hx hs (by simp), fun n hn => nomatch hn⟩
  | schedPoll => exact ⟨h.of_step hx hs (by simp), fun n hn => .inl (notes_schedPoll hinv h.toListsCoupled hs n hn)⟩
  | finish f ok => exact ⟨h.of_step hx hs (by simp), fun n hn => .inl (notes_finish hinv h.toListsCoupled hs n hn)⟩
  | invoke f => exact pred_invoke hx h hs
  | interrupt => exact pred_interrupt h hs (hquiet rfl)
  | ret => exact pred_ret hx h hs hP

/-- **Every note of the specification predicates along a model run** from `initWith x.c s0 r0 k0`,
    from any coupled pair of states, is ok or left open by one of the guards (`Note.Open`). -/
theorem preds_run (hx : GoodCtx x) {s s' : PState} {evs : List Ev} (h : ObsRun x s evs s') :
    ∀ (m : PredSt) (as : List Action), Coupled x s0 r0 k0 K G m s as →
      ∀ n ∈ (predRun x m evs).2, n.ok = true ∨ n.Open (StartsFollowHandouts m evs) K G (CarriedSignalStops x.c s0 r0) := by
  induction h with
  | nil s => exact fun m as _ n hn => nomatch hn
  | @step s s1 s' evs a hs hquiet _ ih =>
    intro m as hc n hn
    obtain ⟨hc', hnotes⟩ := pred_step (P := StartsFollowHandouts m (stepEvents x.c x.control s a s1 ++ evs)) hx hc hs hquiet
      fun hf => by
        unfold StartsFollowHandouts at hf
        rwa [hc.inv, hc.ho] at hf
    rw [predRun_append] at hn
    rcases List.mem_append.mp hn with hn | hn
    · exact hnotes n hn
    · exact (ih _ _ hc' n hn).imp_right (Note.Open.congr_P (startsFollowHandouts_predRun x _ _ m).symm)
  | @q s s' evs hq hres _ ih =>
    intro m as hc n hn
    obtain ⟨hc', hnotes⟩ := pred_q (P := StartsFollowHandouts m (.q :: evs)) hx hc hq hres
    simp only [predRun] at hn
    rcases List.mem_append.mp hn with hn | hn
    · exact hnotes n hn
    · exact (ih _ _ hc' n hn).imp_right (Note.Open.congr_P (startsFollowHandouts_predRun x [.q] evs m).symm)

end FG
