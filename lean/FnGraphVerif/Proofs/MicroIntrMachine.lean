/-
  The interruptible streams (`stream_interruptible` /
  `stream_with_interruptible`) at MICRO-step granularity: the `InterruptibleStream` wrapper of
  `Model/Interrupt.lean` around the micro-step poll of `Model/StreamMicro.lean`.

  One `poll_next` of the wrapper is

      check ; [ pollBegin ; drainStep* ; readyStep ; finish ]

  * `check`   = `interruptCheck` (the `try_recv` on the interrupt channel and the strategy's
                 bookkeeping).  When the wrapper does not poll the inner stream (`pollsInner = false`:
                 it answers `Interrupted(None)` or end-of-stream) the poll is complete after `check`.
  * `pollBegin`, `drainStep`, `readyStep` are literally `mstep?` of `Model/StreamMicro.lean`.
  * `finish`  = the bookkeeping of `pollNext` on the inner answer (`pollNextPost`).

  The ghost `wake` ("woken since the current / last poll began") is cleared by the inner `pollBegin`
  (as in `mstep?`) and, when the poll completes in `check`, by `check` (as in `sipoll`).

  `drop f` (another thread drops a `FnRef`) and `interrupt` (another thread sends the signal:
  `sent := true`) are enabled between ANY two micro steps.  `Model/StreamPoll.lean` (`sipoll`) treats
  the whole poll as one atomic step.

  `IM`, `interruptCheck`, `pollsInner`, `pollNext`, `Out`, `mstep?`, `sdrop`, … are used literally;
  `pollNextPost` (`Proofs/IntrMachine.lean`) is the part of `pollNext` after the check.

  The ghost fields of `MIState` (never read by the machine) serve the C08 bound: `yAfter` counts by
  polls whose `check` came after a signal, `yAfterRT` in real time, i.e. including the poll that was
  already past its `check` when the first signal arrived.
-/
import FnGraphVerif.Proofs.StreamStep
import FnGraphVerif.Proofs.PartialRun
namespace FG

/-- where the consumer thread stands inside the wrapper's `poll_next` -/
inductive WPc
  | idle        -- not inside a poll of the wrapper
  | checked     -- `interruptCheck` done, the inner stream will be polled
  | inner       -- inside the inner `poll_next` (`MState.pc` says where)
  | returned    -- the inner poll has returned, the wrapper's bookkeeping is still to do
  deriving DecidableEq, Repr, Inhabited

structure MIState where
  m : MState                            -- the inner micro machine; `m.s.im` is the wrapper's state
  w : WPc := .idle
  ret : Option (Out × Option Nat) := none   -- answer of the last completed poll of the wrapper
  sigSeen : Bool := false               -- ghost: a signal has been sent
  pollSeen : Bool := false              -- ghost: `sigSeen` at the `check` of the current / last poll
  yAfter : Nat := 0                     -- ghost: items yielded by polls with `pollSeen`
  yAfterRT : Nat := 0                   -- ghost: items yielded while `sigSeen`
  deriving DecidableEq, Repr, Inhabited

def miinit (c : Cfg) : MIState := { m := minit c }

inductive MIAction
  | check
  | pollBegin
  | drainStep
  | readyStep
  | finish
  | drop (f : Nat)
  | dropStream
  | interrupt
  deriving DecidableEq, Repr, Inhabited

def mistep? (c : Cfg) (x : MIState) : MIAction → Option MIState
  | .check =>
    if x.w = .idle ∧ x.m.s.streamDropped = false then
      if pollsInner c.strat x.m.s.im then
        some { x with m := { x.m with s := { x.m.s with im := interruptCheck c.strat x.m.s.im } },
                      w := .checked, pollSeen := x.sigSeen }
      else
        some { x with m := { x.m with s := { x.m.s with
                                im := (pollNext c.strat x.m.s.im .pending).1, wake := false,
                                lastPending := decide ((pollNext c.strat x.m.s.im .pending).2 = .pending) } },
                      ret := some ((pollNext c.strat x.m.s.im .pending).2, none), pollSeen := x.sigSeen }
    else none
  | .pollBegin =>
    if x.w = .checked then
      match mstep? c x.m .pollBegin with
      | some m' => some { x with m := m', w := .inner }
      | none => none
    else none
  | .drainStep =>
    if x.w = .inner then
      match mstep? c x.m .drainStep with
      | some m' => some { x with m := m' }
      | none => none
    else none
  | .readyStep =>
    if x.w = .inner then
      match mstep? c x.m .readyStep with
      | some m' =>
        some { x with m := m', w := .returned,
                      yAfter := x.yAfter + (if x.pollSeen then m'.s.yielded.length - x.m.s.yielded.length else 0),
                      yAfterRT := x.yAfterRT + (if x.sigSeen then m'.s.yielded.length - x.m.s.yielded.length else 0) }
      | none => none
    else none
  | .finish =>
    if x.w = .returned then
      match x.m.result with
      | some r =>
        some { x with m := { x.m with s := { x.m.s with
                                im := (pollNextPost x.m.s.im (underOf r)).1,
                                lastPending := decide ((pollNextPost x.m.s.im (underOf r)).2 = .pending) } },
                      w := .idle, ret := some ((pollNextPost x.m.s.im (underOf r)).2, itemOf r) }
      | none => none
    else none
  | .drop f =>                        -- another thread: enabled at every program counter
    match mstep? c x.m (.drop f) with
    | some m' => some { x with m := m' }
    | none => none
  | .dropStream =>
    if x.w = .idle then
      match mstep? c x.m .dropStream with
      | some m' => some { x with m := m' }
      | none => none
    else none
  | .interrupt =>                     -- another thread: enabled at every program counter
    some { x with m := { x.m with s := { x.m.s with im := { x.m.s.im with sent := true } } },
                  sigSeen := true }

inductive MIReachable (c : Cfg) : MIState → Prop
  | init : MIReachable c (miinit c)
  | step {x x' : MIState} (a : MIAction) : MIReachable c x → mistep? c x a = some x' → MIReachable c x'

/-- after a `check` that goes on to poll the inner stream.

    Trap, here and for every definition `f` that returns a record update of its argument (`finR`,
    `sRelease`, …): matching `(f x).fld` against `x.fld` makes the unifier try `f x =?= x` field by field,
    unfolding what stands in the changed fields, before it projects.  `unfold f` first. -/
def afterCheck (c : Cfg) (x : MIState) : MIState :=
  { x with m := { x.m with s := { x.m.s with im := interruptCheck c.strat x.m.s.im } },
           w := .checked, pollSeen := x.sigSeen }

/-- after a `check` that completes the poll (the wrapper answers by itself) -/
def afterCheckOuter (c : Cfg) (x : MIState) : MIState :=
  { x with m := { x.m with s := { x.m.s with
                            im := (pollNext c.strat x.m.s.im .pending).1, wake := false,
                            lastPending := decide ((pollNext c.strat x.m.s.im .pending).2 = .pending) } },
           ret := some ((pollNext c.strat x.m.s.im .pending).2, none), pollSeen := x.sigSeen }

/-- from `returned` (the inner poll answered `r`): the wrapper's bookkeeping -/
def finR (t : SState) (r : PollRes) : SState :=
  { t with im := (pollNextPost t.im (underOf r)).1,
           lastPending := decide ((pollNextPost t.im (underOf r)).2 = .pending) }

section
variable {c : Cfg} {x x' : MIState}

theorem mistep_check_iff : mistep? c x .check = some x' ↔ x.w = .idle ∧ x.m.s.streamDropped = false ∧
    ((pollsInner c.strat x.m.s.im = true ∧ x' = afterCheck c x) ∨
     (pollsInner c.strat x.m.s.im = false ∧ x' = afterCheckOuter c x)) := by
  simp only [mistep?]
  cases pollsInner c.strat x.m.s.im <;>
    simp only [ite_some_iff, and_assoc, Bool.false_eq_true, if_false, if_true, reduceCtorEq, false_and, true_and,
      false_or, or_false, afterCheck, afterCheckOuter]

/-- the three inner steps of a poll are `mstep?` under the wrapper's program counter -/
theorem mistep_pollBegin_iff : mistep? c x .pollBegin = some x' ↔
    x.w = .checked ∧ ∃ m', mstep? c x.m .pollBegin = some m' ∧ x' = { x with m := m', w := .inner } := by
  simp only [mistep?]
  cases mstep? c x.m .pollBegin <;>
    simp only [ite_some_iff, ite_self, reduceCtorEq, false_and, exists_false, and_false, Option.some.injEq,
      exists_eq_left']

theorem mistep_drainStep_iff : mistep? c x .drainStep = some x' ↔
    x.w = .inner ∧ ∃ m', mstep? c x.m .drainStep = some m' ∧ x' = { x with m := m' } := by
  simp only [mistep?]
  cases mstep? c x.m .drainStep <;>
    simp only [ite_some_iff, ite_self, reduceCtorEq, false_and, exists_false, and_false, Option.some.injEq,
      exists_eq_left']

theorem mistep_readyStep_iff : mistep? c x .readyStep = some x' ↔
    x.w = .inner ∧ ∃ m', mstep? c x.m .readyStep = some m' ∧
      x' = { x with
        m := m', w := .returned
        yAfter := x.yAfter + (if x.pollSeen then m'.s.yielded.length - x.m.s.yielded.length else 0)
        yAfterRT := x.yAfterRT + (if x.sigSeen then m'.s.yielded.length - x.m.s.yielded.length else 0) } := by
  simp only [mistep?]
  cases mstep? c x.m .readyStep <;>
    simp only [ite_some_iff, ite_self, reduceCtorEq, false_and, exists_false, and_false, Option.some.injEq,
      exists_eq_left']

theorem mistep_finish_iff : mistep? c x .finish = some x' ↔
    x.w = .returned ∧ ∃ r, x.m.result = some r ∧
      x' = { x with m := { x.m with s := finR x.m.s r }, w := .idle,
                    ret := some ((pollNextPost x.m.s.im (underOf r)).2, itemOf r) } := by
  simp only [mistep?]
  cases x.m.result <;>
    simp only [ite_some_iff, ite_self, reduceCtorEq, false_and, exists_false, and_false, Option.some.injEq,
      exists_eq_left', finR]

theorem mistep_drop_iff {f : Nat} : mistep? c x (.drop f) = some x' ↔
    ∃ s', sdrop c x.m.s f = some s' ∧ x' = { x with m := { x.m with s := s' } } := by
  simp only [mistep?]
  split
  · rename_i m1 hm
    obtain ⟨s1, hd, rfl⟩ := mstep_drop_iff.mp hm
    refine ⟨fun e => ⟨s1, hd, (Option.some.inj e).symm⟩, ?_⟩
    rintro ⟨s', hd', e⟩
    rw [hd] at hd'; cases hd'; rw [e]
  · rename_i hm
    refine ⟨(fun e => nomatch e), ?_⟩
    rintro ⟨s', hd', _⟩
    rw [mstep_drop_iff.mpr ⟨s', hd', rfl⟩] at hm; cases hm

theorem mistep_dropStream_iff : mistep? c x .dropStream = some x' ↔
    x.w = .idle ∧ x.m.pc = .idle ∧ x.m.s.streamDropped = false ∧
      x' = { x with m := { x.m with s := sdropStream x.m.s } } := by
  simp only [mistep?]
  split
  · rename_i h
    split
    · rename_i m1 hm
      obtain ⟨hpc, hsd, rfl⟩ := mstep_dropStream_iff.mp hm
      exact ⟨fun e => ⟨h, hpc, hsd, (Option.some.inj e).symm⟩, fun e => e.2.2.2 ▸ rfl⟩
    · rename_i hm
      refine ⟨(fun e => nomatch e), ?_⟩
      rintro ⟨_, hpc, hsd, _⟩
      rw [mstep_dropStream_iff.mpr ⟨hpc, hsd, rfl⟩] at hm; cases hm
  · rename_i h
    exact ⟨(fun e => nomatch e), fun e => absurd e.1 h⟩

theorem mistep_interrupt_iff : mistep? c x .interrupt = some x' ↔
    x' = { x with m := { x.m with s := { x.m.s with im := { x.m.s.im with sent := true } } },
                  sigSeen := true } := by
  simp only [mistep?, Option.some.injEq, eq_comm]

end

def mirun (c : Cfg) (x : MIState) : List MIAction → Option MIState
  | [] => some x
  | a :: as => match mistep? c x a with
    | none => none
    | some x' => mirun c x' as

theorem mirun_isRun (c : Cfg) : IsRun (mistep? c) (mirun c) :=
  ⟨fun _ => rfl, fun x a as => by rw [mirun]; cases mistep? c x a <;> rfl⟩

theorem mirun_cons_some {c : Cfg} {x x' : MIState} {a : MIAction} (h : mistep? c x a = some x')
    (as : List MIAction) : mirun c x (a :: as) = mirun c x' as :=
  (mirun_isRun c).cons_some h as

theorem mirun_append (c : Cfg) (x : MIState) (as bs : List MIAction) :
    mirun c x (as ++ bs) = (mirun c x as).bind (fun x' => mirun c x' bs) :=
  (mirun_isRun c).append x as bs

/-- the state after the given micro actions from the initial state (`miinit` if one is not enabled) -/
def miexRun (c : Cfg) (as : List MIAction) : MIState := (mirun c (miinit c) as).getD (miinit c)

theorem miexRun_reachable {c : Cfg} {as : List MIAction}
    (h : (mirun c (miinit c) as).isSome = true) : MIReachable c (miexRun c as) :=
  (mirun_isRun c).invariant_getD (fun hr hs => .step _ hr hs) .init h

end FG
