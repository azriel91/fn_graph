/-
  Proofs/ReachMasks.lean — `reachMasks` along the reverse of an order that passes `topoOrderB`:
  every child is done before its parent, so one step (`maskStep`: the union of the children's
  bits and masks) gives a node its final mask.
-/
import FnGraphVerif.Proofs.SortByRank
import FnGraphVerif.Proofs.SpecFacts
namespace FG

theorem topoOrderB_perm {g : Dag} {ord : List Nat} (h : topoOrderB g ord = true) :
    ord.Perm (List.range g.n) := (topoOrderB_iff.mp h).1

theorem topoOrderB_fwd {g : Dag} {ord : List Nat} (h : topoOrderB g ord = true) : Fwd g (idxOf ord) :=
  (topoOrderB_iff.mp h).2

theorem topoOrderB_mem_iff {g : Dag} {ord : List Nat} (h : topoOrderB g ord = true) {u : Nat} :
    u ∈ ord ↔ u < g.n := by
  rw [(topoOrderB_perm h).mem_iff, List.mem_range]

theorem topoOrderB_children_before {g : Dag} (hwf : WF g) {ord : List Nat} (h : topoOrderB g ord = true)
    {pre post : List Nat} {u c : Nat} (hsplit : ord.reverse = pre ++ u :: post) (he : IsEdge g u c) :
    c ∈ pre := by
  have hord : ord = post.reverse ++ u :: pre.reverse := by
    have := congrArg List.reverse hsplit
    simpa using this
  have hnd : ord.Nodup := (topoOrderB_perm h).nodup_iff.mpr List.nodup_range
  rw [hord, List.nodup_append] at hnd
  have hu : u ∉ post.reverse := fun hm => hnd.2.2 u hm u List.mem_cons_self rfl
  have hlt := topoOrderB_fwd h _ _ he
  have hc : c ∈ ord := (topoOrderB_mem_iff h).mpr (he.lt hwf).2
  rw [hord] at hlt hc
  rw [idxOf_append_cons_self hu] at hlt
  rcases List.mem_append.mp hc with hc | hc
  · have := idxOf_lt_length hc
    rw [idxOf_append_left _ hc] at hlt
    omega
  · rcases List.mem_cons.mp hc with rfl | hc
    · rw [idxOf_append_cons_self hu] at hlt; omega
    · exact List.mem_reverse.mp hc

/-- the mask computed for a node from the masks `acc` of its children -/
def childMask (g : Dag) (acc : List Nat) (u : Nat) : Nat :=
  (children g u).foldl (fun m c => m ||| (1 <<< c) ||| acc[c]?.getD 0) 0

def maskStep (g : Dag) (acc : List Nat) (u : Nat) : List Nat := acc.set u (childMask g acc u)

theorem testBit_maskFold (acc : List Nat) (cs : List Nat) (m0 v : Nat) :
    (cs.foldl (fun m c => m ||| (1 <<< c) ||| acc[c]?.getD 0) m0).testBit v
      = (m0.testBit v || cs.any (fun c => decide (c = v) || (acc[c]?.getD 0).testBit v)) := by
  induction cs generalizing m0 with
  | nil => simp
  | cons c cs ih =>
    rw [List.foldl_cons, ih, Nat.testBit_or, Nat.testBit_or, Nat.one_shiftLeft, Nat.testBit_two_pow, List.any_cons]
    simp only [Bool.or_assoc]

theorem testBit_childMask {g : Dag} {acc : List Nat} {u v : Nat} :
    (childMask g acc u).testBit v = true ↔
      ∃ c, IsEdge g u c ∧ (c = v ∨ (acc[c]?.getD 0).testBit v = true) := by
  unfold childMask
  rw [testBit_maskFold]
  simp only [Nat.zero_testBit, Bool.false_or, List.any_eq_true, Bool.or_eq_true, decide_eq_true_eq,
    mem_children]

/-- every node of `done` has its final, correct mask -/
def MaskInv (g : Dag) (acc done : List Nat) : Prop :=
  acc.length = g.n ∧ ∀ u ∈ done, ∀ v, (acc[u]?.getD 0).testBit v = true ↔ ReachP g u v

theorem maskInv_step {g : Dag} {acc done : List Nat} {u : Nat} (hinv : MaskInv g acc done)
    (hu : u < g.n) (hch : ∀ c, IsEdge g u c → c ∈ done) : MaskInv g (maskStep g acc u) (done ++ [u]) := by
  obtain ⟨hlen, hall⟩ := hinv
  have hnew : ∀ v, (childMask g acc u).testBit v = true ↔ ReachP g u v := by
    intro v
    rw [testBit_childMask, reachP_iff_child]
    exact exists_congr fun c => and_congr_right fun hc => or_congr_right (hall c (hch c hc) v)
  refine ⟨by simp [maskStep, hlen], ?_⟩
  intro w hw v
  unfold maskStep
  by_cases hwu : u = w
  · subst hwu
    rw [List.getElem?_set_self (by omega)]
    exact hnew v
  · rw [List.getElem?_set_ne hwu]
    rcases List.mem_append.mp hw with hw | hw
    · exact hall w hw v
    · simp only [List.mem_singleton] at hw; exact absurd hw.symm hwu

theorem reachMasks_eq (g : Dag) (ord : List Nat) :
    reachMasks g ord = ord.foldl (maskStep g) (List.replicate g.n 0) := rfl

theorem maskInv_reachMasks {g : Dag} (hwf : WF g) {ord : List Nat} (h : topoOrderB g ord = true) :
    MaskInv g (reachMasks g ord.reverse) ord.reverse := by
  rw [reachMasks_eq]
  exact foldl_inv (fun done acc => MaskInv g acc done) ord.reverse _
    ⟨by simp, fun u hu => by cases hu⟩ fun p u q acc hsplit hinv =>
      maskInv_step hinv
        ((topoOrderB_mem_iff h).mp (List.mem_reverse.mp (hsplit ▸ by simp)))
        (fun c hc => topoOrderB_children_before hwf h hsplit hc)

end FG
