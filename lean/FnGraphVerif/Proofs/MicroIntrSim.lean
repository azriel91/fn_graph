/-
  The simulation relation between the micro-step interruptible stream and the atomic model
  `sstep?` / `sipoll`, and its algebra: states up to a spurious wake-up and the wrapper's `im` (`adj`),
  iterations of the drain loop (`RelStar`) commuting with drops.  `SReachG` is atomic reachability with
  ghosts; that its count is `yieldsAfterIntr` of a schedule is `atomic_schedule_of_SReachG`
  (Theorems/C05MicroIntr.lean, from `yieldsAfterIntr_append` here).
-/
import FnGraphVerif.Proofs.MicroIntrInv
import FnGraphVerif.Proofs.IntrDrive
namespace FG

/-- `a` with an extra wake-up `w` and the wrapper state `i` -/
def adj (a : SState) (w : Bool) (i : IM) : SState := { a with wake := a.wake || w, im := i }

section adjFields
variable (a : SState) (w : Bool) (i : IM)
@[simp] theorem adj_doneQ : (adj a w i).doneQ = a.doneQ := rfl
@[simp] theorem adj_live : (adj a w i).live = a.live := rfl
@[simp] theorem adj_im : (adj a w i).im = i := rfl
@[simp] theorem adj_wake : (adj a w i).wake = (a.wake || w) := rfl
@[simp] theorem adj_streamDropped : (adj a w i).streamDropped = a.streamDropped := rfl
@[simp] theorem adj_yielded : (adj a w i).yielded = a.yielded := rfl
@[simp] theorem adj_droppedRefs : (adj a w i).droppedRefs = a.droppedRefs := rfl
@[simp] theorem adj_lastPending : (adj a w i).lastPending = a.lastPending := rfl
@[simp] theorem adj_panic : (adj a w i).panic = a.panic := rfl
@[simp] theorem adj_txOpen : (adj a w i).txOpen = a.txOpen := rfl
@[simp] theorem adj_readyQ : (adj a w i).readyQ = a.readyQ := rfl
@[simp] theorem adj_doneSenders : (adj a w i).doneSenders = a.doneSenders := rfl
end adjFields

theorem adj_adj (a : SState) (w w' : Bool) (i i' : IM) : adj (adj a w i) w' i' = adj a (w || w') i' := by
  simp only [adj, Bool.or_assoc]

theorem adj_false_im (a : SState) : adj a false a.im = a := by
  simp only [adj, Bool.or_false]

theorem adj_setIm (a : SState) (w : Bool) (i i' : IM) : { adj a w i with im := i' } = adj a w i' := rfl

theorem adj_clearWake (a : SState) (w : Bool) (i : IM) :
    { adj a w i with wake := false } = adj { a with wake := false } false i := rfl

theorem adj_sRelease (c : Cfg) (a : SState) (w : Bool) (i : IM) (x : Nat) (rest : List Nat) :
    sRelease c (adj a w i) x rest = adj (sRelease c a x rest) w i := by
  simp only [sRelease, adj]
  rw [Bool.or_right_comm]
  congr 1

theorem adj_sReg (a : SState) (w : Bool) (i : IM) : sReg (adj a w i) = adj (sReg a) w i :=
  sReg_comm (adj · w i) a rfl rfl

theorem adj_sReadyHalf (a : SState) (w : Bool) (i : IM) :
    sReadyHalf (adj a w i) = (adj (sReadyHalf a).1 w i, (sReadyHalf a).2) :=
  sReadyHalf_comm (adj · w i) a rfl rfl rfl (fun _ _ => rfl)

theorem adj_sdrop (c : Cfg) (a : SState) (w : Bool) (i : IM) (f : Nat) :
    sdrop c (adj a w i) f = (sdrop c a f).map (fun a' => adj a' w i) :=
  sdrop_comm c (adj · w i) a f rfl rfl rfl rfl (by simp only [sdropped, adj, Bool.or_right_comm])

theorem adj_sdrop_some {c : Cfg} {s t' : SState} {w : Bool} {i : IM} {f : Nat}
    (h : sdrop c (adj s w i) f = some t') : ∃ s', sdrop c s f = some s' ∧ t' = adj s' w i := by
  rw [adj_sdrop] at h
  obtain ⟨s', hd, e⟩ := Option.map_eq_some_iff.mp h
  exact ⟨s', hd, e.symm⟩

/-- the signal that arrived after this poll's `interruptCheck` -/
def sentOr (i : IM) : Bool → IM
  | true => { i with sent := true }
  | false => i

theorem sentOr_sent (i : IM) (p : Bool) : { sentOr i p with sent := true } = sentOr i true := by
  cases p <;> rfl

/-- `FnRef::drop` with a successful `try_send`, minus the wake-up -/
def dropNW (a : SState) (f : Nat) : SState :=
  { a with live := a.live.erase f, droppedRefs := a.droppedRefs ++ [f], doneQ := a.doneQ ++ [f],
           doneRxWaker := false }

theorem sdrop_sent {c : Cfg} {a : SState} {f : Nat} (hf : f ∈ a.live) (hsd : a.streamDropped = false)
    (hroom : a.doneQ.length < c.cap) : sdrop c a f = some (adj (dropNW a f) a.doneRxWaker a.im) := by
  rw [sdrop_eq, if_neg (by simpa using hf)]
  have : (a.streamDropped || decide (c.cap ≤ a.doneQ.length)) = false := by
    simp [hsd]; omega
  rw [this]
  rfl

theorem dropNW_clearWake (a : SState) (w : Bool) (i : IM) (f : Nat) :
    { adj (dropNW a f) w i with wake := false } = adj (dropNW { a with wake := false } f) false i := rfl

theorem RelStar.dropNW {c : Cfg} {s a : SState} (h : RelStar c s a) (f : Nat) :
    RelStar c (dropNW s f) (dropNW a f) := by
  induction h with
  | refl => exact RelStar.refl _
  | step _ hq ih =>
    rename_i a x rest _
    have hq' : (FG.dropNW a f).doneQ = x :: (rest ++ [f]) := by
      show a.doneQ ++ [f] = _
      rw [hq]; rfl
    exact RelStar.step ih hq'

theorem RelStar.drain {c : Cfg} {s a : SState} (h : RelStar c s a) :
    sDrain c (s.doneQ.length + 1) s = sDrain c (a.doneQ.length + 1) a := by
  induction h with
  | refl => rfl
  | step _ hq ih =>
    rename_i a x rest _
    rw [ih, sRelease_doneQ]
    have hl : a.doneQ.length = rest.length + 1 := by rw [hq]; rfl
    rw [hl]
    exact sDrain_cons c _ hq

/-- from `readyPoll`: `fn_ready_rx.poll_recv`, then the wrapper's bookkeeping -/
def finS (t : SState) : SState :=
  { (sReadyHalf t).1 with
      im := (pollNextPost t.im (underOf (sReadyHalf t).2)).1,
      lastPending := decide ((pollNextPost t.im (underOf (sReadyHalf t).2)).2 = .pending) }

theorem finR_lastPending (t : SState) (b : Bool) (r : PollRes) : finR { t with lastPending := b } r = finR t r := rfl

theorem finR_sReadyHalf (t : SState) : finR (sReadyHalf t).1 (sReadyHalf t).2 = finS t := by
  unfold finR finS
  simp only [sReadyHalf_im]

theorem finR_sdrop {c : Cfg} {t t' : SState} {f : Nat} (r : PollRes) (hd : sdrop c t f = some t') :
    sdrop c (finR t r) f = some (finR t' r) := by
  unfold finR
  rw [(sdrop_spec hd).im]
  exact (sdrop_comm c (fun u => { u with
      im := (pollNextPost t.im (underOf r)).1
      lastPending := decide ((pollNextPost t.im (underOf r)).2 = .pending) }) t f rfl rfl rfl rfl rfl).trans
    (by rw [hd]; rfl)

theorem finR_sent (t : SState) (r : PollRes) :
    finR { t with im := { t.im with sent := true } } r =
      { finR t r with im := { (finR t r).im with sent := true } } := by
  unfold finR
  simp only [pollNextPost_sent]

/-- a signal that arrived after the `interruptCheck` (`sentOr _ p`) is not seen by the rest of the
    poll: it is still there afterwards, and the answer is the same -/
theorem pollNextPost_sentOr (i : IM) (p : Bool) (u : Under) :
    pollNextPost (sentOr i p) u = (sentOr (pollNextPost i u).1 p, (pollNextPost i u).2) := by
  cases p
  · rfl
  · exact pollNextPost_sent i u

theorem finS_sentOr (t : SState) (p : Bool) :
    finS { t with im := sentOr t.im p } = { finS t with im := sentOr (finS t).im p } := by
  have h := sReadyHalf_setIm t (sentOr t.im p)
  unfold finS
  rw [h]
  simp only [pollNextPost_sentOr]

theorem finS_sent (t : SState) :
    finS { t with im := { t.im with sent := true } } =
      { finS t with im := { (finS t).im with sent := true } } :=
  finS_sentOr t true

/-- a drop landing before `fn_ready_rx.poll_recv` commutes with it: the answer is the same, and the
    freshly yielded `FnRef` is not the dropped one (`f` was live before) -/
theorem sReadyHalf_sdrop {c : Cfg} {t t' : SState} {f : Nat} (hd : sdrop c t f = some t') :
    sdrop c (sReadyHalf t).1 f = some (sReadyHalf t').1 ∧ (sReadyHalf t').2 = (sReadyHalf t).2 := by
  have hs := sdrop_spec hd
  obtain ⟨hf, he⟩ := sdrop_iff.mp hd
  rcases sReadyHalf_cases t with ⟨h, e⟩ | ⟨h, hq, e⟩ | ⟨g, rest, h, hq, e⟩
  · rw [e, sReadyHalf_closed (hs.txOpen.trans h)]
    exact ⟨hd, rfl⟩
  · rw [e, sReadyHalf_nil (hs.txOpen.trans h) (hs.readyQ.trans hq)]
    have h := sdrop_comm c (fun u => { u with readyRxWaker := true }) t f rfl rfl rfl rfl rfl
    rw [hd] at h
    exact ⟨h, rfl⟩
  · rw [e, sReadyHalf_cons (hs.txOpen.trans h) (hs.readyQ.trans hq)]
    refine ⟨sdrop_iff.mpr ⟨List.mem_append_left _ hf, ?_⟩, rfl⟩
    have herase : (t.live ++ [g]).erase f = t.live.erase f ++ [g] := List.erase_append_left [g] hf
    show _ = if (t.streamDropped || decide (c.cap ≤ t.doneQ.length)) = true then _ else _
    split at he <;> rename_i hcond <;> subst he
    · rw [if_pos hcond]; simp only [syield, sdropped, herase]
    · rw [if_neg hcond]; simp only [syield, sdropped, herase]

theorem finS_sdrop {c : Cfg} {t t' : SState} {f : Nat} (hd : sdrop c t f = some t') :
    sdrop c (finS t) f = some (finS t') := by
  obtain ⟨h1, h2⟩ := sReadyHalf_sdrop hd
  rw [← finR_sReadyHalf t, ← finR_sReadyHalf t', h2]
  exact finR_sdrop _ h1

/-! `SReachG c s seen n last` is `SReachable c true s` instrumented ("G" = with ghosts): a signal was
  sent (`seen`), `yieldsAfterIntr` of the schedule so far (`n`), the answer of its last poll (`last`).

  `MITrS c x s seen n last` relates a micro state `x` to an atomic state `s`.  The atomic poll happens
  at the `drainStep` that sees the done channel empty.  Until then the atomic run is BEHIND: the
  drops that arrived so far are already applied to `s` (they commute to before the poll), a signal
  that arrived since the `check` is remembered (`p`: this poll's `interruptCheck` did not see it, it
  commutes to after the poll).  From then on it is AHEAD: drops and signals are applied to `s`
  directly, and the rest of the micro poll (`finS` / `finR`) computes `s`. -/

/-- the answer of the last poll, after one more action -/
def lastOf (c : Cfg) (s : SState) (last : Option (Out × Option Nat)) : SAction → Option (Out × Option Nat)
  | .poll => some (sipoll c true s).2
  | _ => last

inductive SReachG (c : Cfg) : SState → Bool → Nat → Option (Out × Option Nat) → Prop
  | init : SReachG c (sinit c) false 0 none
  | step {s s' : SState} {seen : Bool} {n : Nat} {last : Option (Out × Option Nat)} (a : SAction) :
      SReachG c s seen n last → sstep? c true s a = some s' →
      SReachG c s' (seen || a == .interrupt)
        (n + if seen then s'.yielded.length - s.yielded.length else 0) (lastOf c s last a)

section
variable {c : Cfg} {s s' : SState} {seen : Bool} {n : Nat} {last : Option (Out × Option Nat)}

theorem SReachG.reachable (h : SReachG c s seen n last) : SReachable c true s := by
  induction h with
  | init => exact SReachable.init
  | step a _ hs ih => exact SReachable.step a ih hs

theorem SReachG.step_quiet {a : SAction} (h : SReachG c s seen n last) (hs : sstep? c true s a = some s')
    (hy : s'.yielded = s.yielded) : SReachG c s' (seen || a == .interrupt) n (lastOf c s last a) := by
  have h1 := SReachG.step a h hs
  rwa [hy, Nat.sub_self, ite_self, Nat.add_zero] at h1

theorem SReachG.drop {f : Nat} (h : SReachG c s seen n last)
    (hd : sdrop c s f = some s') : SReachG c s' seen n last :=
  Bool.or_false seen ▸ h.step_quiet (sstep_drop_iff.mpr hd) (sdrop_spec hd).yielded

theorem SReachG.dropStream (h : SReachG c s seen n last)
    (hsd : s.streamDropped = false) : SReachG c (sdropStream s) seen n last :=
  Bool.or_false seen ▸ h.step_quiet (sstep_dropStream_iff.mpr ⟨hsd, rfl⟩) rfl

theorem SReachG.interrupt (h : SReachG c s seen n last) :
    SReachG c { s with im := { s.im with sent := true } } true n last :=
  Bool.or_true seen ▸ h.step_quiet (sstep_interrupt_iff.mpr rfl) rfl

theorem SReachG.sentOr (h : SReachG c s seen n last) (p : Bool) :
    SReachG c { s with im := sentOr s.im p } (seen || p) n last := by
  cases p
  · exact (Bool.or_false seen).symm ▸ h
  · exact (Bool.or_true seen).symm ▸ h.interrupt

theorem SReachG.poll (h : SReachG c s seen n last)
    (hsd : s.streamDropped = false) :
    SReachG c (sipoll c true s).1 seen
      (n + if seen then (sipoll c true s).1.yielded.length - s.yielded.length else 0)
      (some (sipoll c true s).2) := by
  have h1 := SReachG.step .poll h (sstep_poll_iff.mpr ⟨hsd, rfl⟩)
  rwa [show (seen || SAction.poll == .interrupt) = seen from Bool.or_false seen] at h1
end

theorem yieldsAfterIntr_append (c : Cfg) (bs cs : List SAction) (s s1 : SState) (seen : Bool)
    (h : srun c true s bs = some s1) :
    yieldsAfterIntr c s seen (bs ++ cs) =
      yieldsAfterIntr c s seen bs + yieldsAfterIntr c s1 (seen || bs.any (· == .interrupt)) cs := by
  revert seen
  refine (srun_isRun c true).run_induction (P := fun s bs s1 => ∀ seen, yieldsAfterIntr c s seen (bs ++ cs) =
    yieldsAfterIntr c s seen bs + yieldsAfterIntr c s1 (seen || bs.any (· == .interrupt)) cs) ?_ ?_ h
  · intro s seen
    simp [yieldsAfterIntr]
  · intro s b s2 bs s1 hb _ ih seen
    simp only [List.cons_append, yieldsAfterIntr, hb, ih, List.any_cons, Bool.or_assoc]
    omega

theorem finS_adj (t : SState) (w : Bool) (i : IM) :
    finS (adj t w i) = adj (finS { t with im := i }) w (finS { t with im := i }).im := by
  unfold finS
  rw [adj_sReadyHalf, sReadyHalf_setIm t i]
  rfl

/-- the atomic poll of the wrapper that polls the inner stream, in terms of `finS` of the drained state `D` -/
theorem sipoll_eq_finS (c : Cfg) (s : SState) (hpi : pollsInner c.strat s.im = true) {D : SState}
    (hD : sDrain c (s.doneQ.length + 1) { s with wake := false } = D) :
    sipoll c true s =
      (finS { D with im := interruptCheck c.strat s.im },
       (pollNextPost (interruptCheck c.strat s.im) (underOf (sReadyHalf D).2)).2, itemOf (sReadyHalf D).2) := by
  subst hD
  unfold finS
  rw [sipoll_inner c true s hpi, spoll_eq,
    sReadyHalf_setIm (sDrain c (s.doneQ.length + 1) { s with wake := false }) (interruptCheck c.strat s.im)]
  simp only [pollNext_eq_post, pollsInner_ian hpi]
  rfl

/-- the `drainStep` that sees the done channel empty is where the atomic poll happens: the drain of
    the atomic state is complete (`a`), and what the micro poll still has to do computes `sipoll`; the
    third conjunct is the yield count in the form `mitr_step` meets it (`adj (sReg a) w j` is the micro state) -/
theorem sipoll_of_drained {c : Cfg} {s a : SState} (hpi : pollsInner c.strat s.im = true)
    (hrel : RelStar c { s with wake := false } a) (haq : a.doneQ = []) (w : Bool) (j : IM) :
    (sipoll c true s).1 = finS { sReg a with im := interruptCheck c.strat s.im } ∧
    (sipoll c true s).2 = ((pollNextPost (interruptCheck c.strat s.im) (underOf (sReadyHalf (sReg a)).2)).2,
      itemOf (sReadyHalf (sReg a)).2) ∧
    (sipoll c true s).1.yielded.length - s.yielded.length =
      (sReadyHalf (adj (sReg a) w j)).1.yielded.length - (adj (sReg a) w j).yielded.length := by
  have hdr : sDrain c (s.doneQ.length + 1) { s with wake := false } = sReg a := by
    rw [hrel.drain, haq]
    exact sDrain_nil c 0 haq
  have h := sipoll_eq_finS c s hpi hdr
  have hpoll := congrArg Prod.fst h
  refine ⟨hpoll, congrArg Prod.snd h, ?_⟩
  have e1 : s.yielded = (sReg a).yielded := by
    rw [sReg_eq]; exact hrel.sameOuter.yielded.symm
  rw [hpoll, e1, adj_sReadyHalf]
  unfold finS
  rw [sReadyHalf_setIm (sReg a) (interruptCheck c.strat s.im)]
  rfl

/-- the atomic poll about to be simulated does poll the inner stream -/
structure Front (c : Cfg) (s : SState) : Prop where
  notDropped : s.streamDropped = false
  polls : pollsInner c.strat s.im = true

inductive MITrS (c : Cfg) (x : MIState) (s : SState) (seen : Bool) (n : Nat)
    (last : Option (Out × Option Nat)) : Prop
  -- outside a poll: the states agree up to one spurious wake-up `w`
  | idle (hw : x.w = .idle) (w : Bool) (hs : x.m.s = adj s w s.im) (hseen : seen = x.sigSeen)
      (hn : n = x.yAfter) (hret : x.ret = last)
  -- after `check`: `s` is the state BEFORE the atomic poll; `p` = a signal arrived since the check
  | checked (hw : x.w = .checked) (p w : Bool) (hf : Front c s)
      (hs : x.m.s = adj s w (sentOr (interruptCheck c.strat s.im) p))
      (hseen : seen = x.pollSeen) (hsig : x.sigSeen = (x.pollSeen || p)) (hn : n = x.yAfter)
      (hret : x.ret = last)
  -- in the drain loop: still BEFORE the atomic poll; `a` = `s` after the iterations done so far
  | draining (hw : x.w = .inner) (hpc : x.m.pc = .draining) (p : Bool) (a : SState) (w : Bool) (hf : Front c s)
      (hrel : RelStar c { s with wake := false } a)
      (hs : x.m.s = adj a w (sentOr (interruptCheck c.strat s.im) p))
      (hseen : seen = x.pollSeen) (hsig : x.sigSeen = (x.pollSeen || p)) (hn : n = x.yAfter)
      (hret : x.ret = last)
  -- the done channel was seen empty: `s` is the state AFTER the atomic poll, which the rest of
  -- the micro poll (`finS`) computes
  | ready (hw : x.w = .inner) (hpc : x.m.pc = .readyPoll) (w : Bool) (hs : finS x.m.s = adj s w s.im)
      (hseen : seen = x.sigSeen)
      (hn : n = x.yAfter +
        if x.pollSeen then (sReadyHalf x.m.s).1.yielded.length - x.m.s.yielded.length else 0)
      (hret : last = some ((pollNextPost x.m.s.im (underOf (sReadyHalf x.m.s).2)).2, itemOf (sReadyHalf x.m.s).2))
  -- the inner poll has answered `r`: AFTER the atomic poll; only the wrapper's bookkeeping (`finR`) is left
  | returned (hw : x.w = .returned) (r : PollRes) (hr : x.m.result = some r) (w : Bool)
      (hs : finR x.m.s r = adj s w s.im) (hseen : seen = x.sigSeen) (hn : n = x.yAfter)
      (hret : last = some ((pollNextPost x.m.s.im (underOf r)).2, itemOf r))

section
variable {c : Cfg} {x : MIState} {s : SState} {seen : Bool} {n : Nat} {last : Option (Out × Option Nat)}

theorem MITrS.of_idle (h : MITrS c x s seen n last) (hw : x.w = .idle) :
    ∃ w, x.m.s = adj s w s.im ∧ seen = x.sigSeen ∧ n = x.yAfter ∧ x.ret = last := by
  cases h with
  | idle _ w a1 a2 a3 a4 => exact ⟨w, a1, a2, a3, a4⟩
  | _ hw' => rw [hw] at hw'; cases hw'

/-- the count of the atomic run is ahead of `yAfter` only between the atomic poll and `readyStep` -/
theorem MITrS.yAfter_le (h : MITrS c x s seen n last) : x.yAfter ≤ n := by
  cases h with
  | idle _ _ _ _ hn => exact Nat.le_of_eq hn.symm
  | checked _ _ _ _ _ _ _ hn => exact Nat.le_of_eq hn.symm
  | draining _ _ _ _ _ _ _ _ _ _ hn => exact Nat.le_of_eq hn.symm
  | ready _ _ _ _ _ hn => rw [hn]; exact Nat.le_add_right _ _
  | returned _ _ _ _ _ _ hn => exact Nat.le_of_eq hn.symm

end

def MITr (c : Cfg) (x : MIState) : Prop := ∃ s seen n last, SReachG c s seen n last ∧ MITrS c x s seen n last

end FG
