/-
  Proofs/TrackStep.lean — the induction over an `ObsRun` behind `Theorems/MonitorComplete.lean`: one step
  of the real run keeps the coupling `Cpl` and the monitor accepts the step's events, provided
  closures are invoked in hand-out order (`FifoT`, threaded through the run as in
  `Proofs/PredEvents.lean`) and interrupt signals are sent while the monitor is in step with the real run
  (directly after a `q`, or first of all), or the strategy is `NonInterruptible`.
-/
import FnGraphVerif.Proofs.TrackCoupling
namespace FG
variable {x : MonCtx} {s s1 : PState} {t : TrackSt}

def FifoT (t : TrackSt) (evs : List Ev) : Prop :=
  (t.realInvoked ++ evs.filterMap Ev.invoke?) <+: (t.realHandout ++ evs.filterMap Ev.handout?)

theorem fifoT_cons (x : MonCtx) (t : TrackSt) (e : Ev) (tail : List Ev) :
    FifoT t (e :: tail) ↔ FifoT (trackFut x t e).1 tail := by
  unfold FifoT
  rw [(trackFut_real x t e).1, (trackFut_real x t e).2, filterMap_cons_toList, filterMap_cons_toList,
    List.append_assoc, List.append_assoc]

theorem fifoT_trackRun (x : MonCtx) (evs tail : List Ev) : ∀ t : TrackSt,
    FifoT t (evs ++ tail) ↔ FifoT (trackRun x t evs).1 tail := by
  induction evs with
  | nil => intro t; simp [trackRun]
  | cons e evs ih =>
    intro t
    rw [List.cons_append, fifoT_cons x, ih, trackRun_cons]

theorem Cpl.fifo_prefix (hx : GoodCtx x) (h : Cpl x s t) {evs : List Ev} (hf : FifoT t evs) :
    s.invoked <+: s.handedOut := by
  unfold FifoT at hf
  rw [h.rInv, h.rHo] at hf
  exact (inv0_reachable hx.good h.rs).invoked_prefix_of_append ((List.prefix_append _ _).trans hf)

/-- every `intr` comes directly after a `q` (or, with `b = true`, is the first event) -/
def intrAtQFrom : Bool → List Ev → Prop
  | _, [] => True
  | b, .intr :: es => b = true ∧ intrAtQFrom false es
  | _, .q :: es => intrAtQFrom true es
  | _, _ :: es => intrAtQFrom false es

instance instDecidableIntrAtQFrom : ∀ (b : Bool) (evs : List Ev), Decidable (intrAtQFrom b evs)
  | _, [] => isTrue trivial
  | b, e :: es => by
    have := instDecidableIntrAtQFrom true es
    have := instDecidableIntrAtQFrom false es
    cases e <;> unfold intrAtQFrom <;> infer_instance

/-- the condition on interrupt signals: the strategy never looks at the signal, or every signal is
    sent while the monitor is in step with the real run -/
def IntrSide (x : MonCtx) (b : Bool) (evs : List Ev) : Prop := x.c.strat = .non ∨ intrAtQFrom b evs

/-- every step of the real run from `s` that shows no event leaves the state as it is -/
def Quiet (x : MonCtx) (s : PState) : Prop :=
  ∀ (a : Action) (s1 : PState), step? x.c s a = some s1 → stepEvents x.c x.control s a s1 = [] → s1 = s

/-- the monitor is in step: `SimC`-equal states, and the real run cannot move on unobserved -/
def Synced (x : MonCtx) (s : PState) (t : TrackSt) : Prop := SimC s t.s ∧ Quiet x s

theorem quiet_init (hx : GoodCtx x) (hn : x.c.n ≠ 0) : Quiet x (init x.c) := by
  intro a s1 hs hev
  exact absurd hev (init_step_visible hx.good hn x.control hs)

theorem quiet_of_quiescent (hq : Quiescent x.c s) (hres : s.result = none) : Quiet x s := by
  intro a s1 hs hev
  cases a with
  | queuerRecv => exact quiescent_core_step_eq hq hres .qr hs
  | queuerEnd => exact quiescent_core_step_eq hq hres .qe hs
  | schedPoll => exact quiescent_core_step_eq hq hres .sp hs
  | schedEnd => exact quiescent_core_step_eq hq hres .se hs
  | ret => exact quiescent_core_step_eq hq hres .rt hs
  | invoke f => exact absurd hev (by simp [stepEvents_invoke])
  | finish f ok => exact absurd hev (by simp [stepEvents_finish])
  | interrupt => exact absurd hev (by simp [stepEvents_interrupt])

theorem intrAtQFrom_single {b : Bool} {e : Ev} {tail : List Ev} (he : e ≠ .intr) (hq : e ≠ .q)
    (h : intrAtQFrom b (e :: tail)) : intrAtQFrom false tail := by
  cases e <;> first | exact absurd rfl he | exact absurd rfl hq | exact h

/-- what a step of the real run with events `evs` must leave behind: the coupling, whether the monitor
    is known to be in step (`b'`), the side condition for the rest of the run, and no failed note -/
def StepOut (x : MonCtx) (s1 : PState) (t : TrackSt) (evs tail : List Ev) (b' : Bool) : Prop :=
  Cpl x s1 (trackRun x t evs).1 ∧ (b' = true → Synced x s1 (trackRun x t evs).1) ∧ IntrSide x b' tail ∧
  ∀ n ∈ (trackRun x t evs).2, n.ok = true

theorem step_cpl (hx : GoodCtx x) (hcoop : x.coop = false) (h : Cpl x s t) {b : Bool}
    (hb : b = true → Synced x s t) {a : Action}
    (hs : step? x.c s a = some s1) {tail : List Ev}
    (hside : IntrSide x b (stepEvents x.c x.control s a s1 ++ tail)) :
    ∃ b', StepOut x s1 t (stepEvents x.c x.control s a s1) tail b' := by
  have silent : ∀ (ha : a.internal), stepEvents x.c x.control s a s1 = [] → s1.handedOut = s.handedOut →
      s1.inflight = s.inflight → s1.invoked = s.invoked →
      ∃ b', StepOut x s1 t (stepEvents x.c x.control s a s1) tail b' := by
    intro ha hev h1 h2 h3
    rw [hev] at hside ⊢
    refine ⟨b, cpl_silent hx h ha hs h1 h2 h3, ?_, hside, fun n hn => by cases hn⟩
    intro hbt
    have hsy := hb hbt
    have : s1 = s := hsy.2 a s1 hs hev
    rw [this]
    exact hsy
  -- a visible step other than `intr`: the monitor is no longer known to be in step
  have visible : ∀ (e : Ev), e ≠ .intr → e ≠ .q → stepEvents x.c x.control s a s1 = [e] →
      (Cpl x s1 (trackFut x t e).1 ∧ ∀ n ∈ (trackFut x t e).2, n.ok = true) →
      ∃ b', StepOut x s1 t (stepEvents x.c x.control s a s1) tail b' := by
    intro e he hq hev hres
    rw [hev] at hside ⊢
    unfold StepOut
    rw [trackRun_singleton]
    exact ⟨false, hres.1, fun hh => absurd hh (by simp), hside.imp id (intrAtQFrom_single he hq), hres.2⟩
  cases a with
  | queuerRecv =>
    obtain ⟨_, _, y, rest, _, hs1⟩ := step_queuerRecv_iff.mp hs
    exact silent (CA.act_internal .qr) rfl (by rw [hs1]; rfl) (by rw [hs1]; rfl) (by rw [hs1]; rfl)
  | queuerEnd =>
    obtain ⟨_, _, _, hs1⟩ := step_queuerEnd_iff.mp hs
    exact silent (CA.act_internal .qe) rfl (by rw [hs1]) (by rw [hs1]) (by rw [hs1])
  | schedEnd =>
    obtain ⟨_, _, _, hs1⟩ := step_schedEnd_iff.mp hs
    exact silent (CA.act_internal .se) rfl (by rw [hs1]) (by rw [hs1]) (by rw [hs1])
  | schedPoll =>
    rcases step_lists hs with ⟨_, d2, d3, d1, _⟩ | ⟨f, hf, _⟩ | ⟨f, ok, hf, _⟩ | ⟨g, rest, _, _, d2, d3, d1, _⟩
    · exact silent (CA.act_internal .sp) (stepEvents_poll_same x.control d1) d1 d2 d3
    · cases hf
    · cases hf
    · exact visible (.handout g) (by simp) (by simp) (stepEvents_poll_snoc x.control d1)
        (cpl_handout hx hcoop h hs d1 d2 d3)
  | invoke f =>
    exact visible (.invoke f) (by simp) (by simp) rfl (cpl_invoke hx h hs)
  | finish f ok =>
    exact visible (.fin f ok) (by simp) (by simp) rfl (cpl_finish hx h hs)
  | interrupt =>
    rw [stepEvents_interrupt] at hside ⊢
    unfold StepOut
    rw [trackRun_singleton, step_interrupt_iff.mp hs]
    rcases hside with hst | hq
    · obtain ⟨h1, h2⟩ := cpl_interrupt_non hx hst h
      exact ⟨false, h1, fun hh => absurd hh (by simp), Or.inl hst, h2⟩
    · obtain ⟨hbt, hrest⟩ : b = true ∧ intrAtQFrom false tail := hq
      obtain ⟨h1, h2⟩ := cpl_interrupt_sync hx h (hb hbt).1
      exact ⟨false, h1, fun hh => absurd hh (by simp), Or.inr hrest, h2⟩
  | ret =>
    obtain ⟨e, hev, he, hq, h1, h2⟩ := cpl_ret hx h hs
    exact visible e he hq hev ⟨h1, h2⟩

/-- every note is ok — the note `R-quiesce … invoked` provided closures are started in hand-out order -/
theorem track_gen (hx : GoodCtx x) (hcoop : x.coop = false) {s s' : PState} {evs : List Ev}
    (h : ObsRun x s evs s') : ∀ (t : TrackSt) (b : Bool), Cpl x s t → (b = true → Synced x s t) →
      IntrSide x b evs → ∀ n ∈ (trackRun x t evs).2,
        (FifoT t evs → n.ok = true) ∧ (n.ok = true ∨ n.isQInvoked) := by
  induction h with
  | nil s => intro t b _ _ _ n hn; cases hn
  | @step s s1 s' evs a hs hquiet _ ih =>
    intro t b hc hb hside n hn
    obtain ⟨b', hc', hb', hside', hnotes⟩ := step_cpl hx hcoop hc hb hs hside
    rw [trackRun_append] at hn
    rcases List.mem_append.mp hn with hn | hn
    · exact ⟨fun _ => hnotes n hn, Or.inl (hnotes n hn)⟩
    · obtain ⟨g1, g2⟩ := ih _ b' hc' hb' hside' n hn
      exact ⟨fun hP => g1 ((fifoT_trackRun x _ _ t).mp hP), g2⟩
  | @q s s' evs hq hres _ ih =>
    intro t b hc hb hside n hn
    obtain ⟨hc', hsim, hnotes⟩ := cpl_q hx hc hq hres
    rw [trackRun_cons] at hn
    rcases List.mem_append.mp hn with hn | hn
    · obtain ⟨g1, g2⟩ := hnotes n hn
      exact ⟨fun hP => g1 (hc.fifo_prefix hx hP), g2⟩
    · obtain ⟨g1, g2⟩ := ih _ true hc' (fun _ => ⟨hsim, quiet_of_quiescent hq hres⟩) (hside.imp id id) n hn
      exact ⟨fun hP => g1 ((fifoT_cons x t .q evs).mp hP), g2⟩

/-- … from the start of a run: coupled by `cpl_init`, and in step unless the graph is empty -/
theorem track_gen_init (hx : GoodCtx x) (hcoop : x.coop = false) {s' : PState} {evs : List Ev}
    (h : ObsRun x (init x.c) evs s') (hside : IntrSide x (decide (x.c.n ≠ 0)) evs) :
    ∀ n ∈ (trackRun x { s := init x.c } evs).2,
      (FifoT { s := init x.c } evs → n.ok = true) ∧ (n.ok = true ∨ n.isQInvoked) :=
  track_gen hx hcoop h _ _ (cpl_init x)
    (fun hb => ⟨SimC.refl _, quiet_init hx (by simpa using hb)⟩) hside

end FG
