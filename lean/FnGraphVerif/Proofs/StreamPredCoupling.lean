/-
  Proofs/StreamPredCoupling.lean — the coupling `SCpl` between the predicate monitor's state and the
  state of the stream model, with the ghost run `Ghost` of the `InterruptibleStream` machine behind
  the pair.  Every step of the stream model preserves the coupling, and every note `predStream` emits
  on its event holds, but for one open note (`Note.SOpen`) under the guard `SPlain`.  For each kind of
  event: what the notes need of the monitor state (`predStream_*`), then the model's reason for it,
  which is the property theorem the note stands for (`pending_not_stalled`,
  `stream_yield_after_ancestors`, `stream_no_ancestor_live`, `stream_yield_nodup`, `finish_bound`,
  `pollN_bound`, `noninterrupting_transparent`): hence the imports from `Theorems`.  Two go through
  `StreamInv` instead: the notes of a drop (`SCore.parked_not_stalled`), and `C05 none-iff-all`
  (`spoll_none_iff`, since `none_iff_all_yielded` is stated for `strat = .non`).
-/
import FnGraphVerif.Theorems.C08
import FnGraphVerif.Theorems.C05
import FnGraphVerif.Proofs.PollObs
import FnGraphVerif.Proofs.StreamInv
import FnGraphVerif.Proofs.SpecFacts
import FnGraphVerif.Proofs.NoteSpecs
namespace FG

/-- `irun st ievs` is the `InterruptibleStream` machine after the signals / polls `ievs`, and
    `yN + yI` the items it handed on since the first signal.  The last two clauses (`nEv = 0 →
    ievs = []`, `intrPre → ievs = signal :: _`) are what lets `ghost_bound` pick the bound for a signal
    sent before the first event. -/
def Ghost (st : Strat) (s : SState) (m : SPredSt) : Prop :=
  ∃ ievs : List IEv, (irun st ievs).m = s.im ∧
    (irun st ievs).everSent = m.yieldedAtIntr.isSome ∧
    (∀ k0, m.yieldedAtIntr = some k0 → k0 + ((irun st ievs).yN + (irun st ievs).yI) = s.yielded.length) ∧
    (m.nEv = 0 → ievs = []) ∧ (m.intrPre = true → ∃ t, ievs = .signal :: t)

structure SCpl (x : MonCtx) (s : SState) (m : SPredSt) : Prop where
  reach : SReachable x.c true s
  yielded : m.yielded = s.yielded
  live : m.live = s.live
  dropped : m.droppedRefs = s.droppedRefs
  lastPending : m.lastPending = s.lastPending
  sd : m.streamDropped = s.streamDropped
  -- only a `Pending` observation carries the flag; after any other answer the monitor's copy is
  -- unrelated to `s.wake`, and every reader of it is guarded by `lastPending`
  wake : m.lastPending = true → m.wokenSincePoll = s.wake
  ghost : Ghost x.c.strat s m

theorem spredRun_cons (x : MonCtx) (m : SPredSt) (e : Ev) (es : List Ev) :
    spredRun x m (e :: es) =
      ((spredRun x (predStream x false m e).1 es).1,
       (predStream x false m e).2 ++ (spredRun x (predStream x false m e).1 es).2) := rfl

theorem scpl_init (x : MonCtx) : SCpl x (sinit x.c) {} :=
  { reach := SReachable.init, yielded := rfl, live := rfl, dropped := rfl, lastPending := rfl, sd := rfl,
    wake := fun h => (by cases h),
    ghost := ⟨[], rfl, rfl, (fun k0 h => by cases h), (fun _ => rfl), (fun h => by cases h)⟩ }

theorem predStream_keeps (x : MonCtx) (m : SPredSt) {e : Ev} (he : e ≠ .intr) :
    (predStream x false m e).1.yieldedAtIntr = m.yieldedAtIntr ∧
    (predStream x false m e).1.intrPre = m.intrPre ∧ (predStream x false m e).1.nEv = m.nEv + 1 := by
  cases e with
  | intr => exact absurd rfl he
  | poll r => cases r <;> exact ⟨rfl, rfl, rfl⟩
  | _ => exact ⟨rfl, rfl, rfl⟩

theorem ghost_other {st : Strat} {s s1 : SState} {m m1 : SPredSt} (h : Ghost st s m)
    (him : s1.im = s.im) (hy : s1.yielded = s.yielded) (h1 : m1.yieldedAtIntr = m.yieldedAtIntr)
    (h2 : m1.intrPre = m.intrPre) (h3 : m1.nEv = m.nEv + 1) : Ghost st s1 m1 := by
  obtain ⟨ievs, a1, a2, a3, _, a5⟩ := h
  refine ⟨ievs, by rw [him]; exact a1, by rw [h1]; exact a2, ?_, ?_, ?_⟩
  · intro k0 hk; rw [hy]; exact a3 k0 (h1 ▸ hk)
  · intro h0; omega
  · intro hp; exact a5 (h2 ▸ hp)

/-- a further signal changes nothing the ghost records; the first one fixes `k0` to the yields so
    far, none of which the ghost run has counted (`irun_nosig`) -/
theorem ghost_intr {x : MonCtx} {st : Strat} {s : SState} {m : SPredSt} (h : Ghost st s m)
    (hy : m.yielded = s.yielded) :
    Ghost st { s with im := { s.im with sent := true } } (predStream x false m .intr).1 := by
  obtain ⟨ievs, a1, a2, a3, a4, a5⟩ := h
  have hyi : (predStream x false m .intr).1.yieldedAtIntr =
      (match m.yieldedAtIntr with | none => some m.yielded.length | y => y) := rfl
  have hpre : (predStream x false m .intr).1.intrPre =
      (if m.yieldedAtIntr.isNone then m.nEv == 0 else m.intrPre) := rfl
  have hsum : (irun st (ievs ++ [.signal])).yN = (irun st ievs).yN ∧
      (irun st (ievs ++ [.signal])).yI = (irun st ievs).yI := by
    rw [irun_snoc]; exact ⟨rfl, rfl⟩
  refine ⟨ievs ++ [.signal], ?_, ?_, ?_, ?_, ?_⟩
  · rw [irun_snoc, ← a1]; rfl
  · rw [irun_snoc, hyi]
    show true = _
    cases m.yieldedAtIntr <;> rfl
  · intro k0 hk
    rw [hsum.1, hsum.2]
    show k0 + ((irun st ievs).yN + (irun st ievs).yI) = s.yielded.length
    rw [hyi] at hk
    cases hm : m.yieldedAtIntr with
    | none =>
      rw [hm] at hk a2
      simp only [Option.some.injEq] at hk
      rw [(irun_nosig st ievs a2).2, ← hk, hy]; rfl
    | some k =>
      rw [hm] at hk
      simp only [Option.some.injEq] at hk
      subst hk
      exact a3 k hm
  · exact fun h0 => absurd h0 (Nat.succ_ne_zero m.nEv)
  · intro hp
    rw [hpre] at hp
    cases hm : m.yieldedAtIntr with
    | none =>
      rw [hm] at hp
      simp only [Option.isNone_none, if_true, beq_iff_eq] at hp
      rw [a4 hp]
      exact ⟨[], rfl⟩
    | some k =>
      rw [hm] at hp
      simp only [Option.isNone_some, Bool.false_eq_true, if_false] at hp
      obtain ⟨t, ht⟩ := a5 hp
      exact ⟨t ++ [.signal], by rw [ht]; rfl⟩

theorem ghost_poll {c : Cfg} {s : SState} {m m1 : SPredSt} (h : Ghost c.strat s m)
    (h1 : m1.yieldedAtIntr = m.yieldedAtIntr) (h2 : m1.intrPre = m.intrPre) (h3 : m1.nEv = m.nEv + 1) :
    Ghost c.strat (sipoll c true s).1 m1 := by
  obtain ⟨ievs, a1, a2, a3, _, a5⟩ := h
  obtain ⟨e1, e2⟩ := sipoll_spec c true s
  have hsum := istep_poll_sum c.strat (irun c.strat ievs) (sipollUnder c true s)
  refine ⟨ievs ++ [.poll (sipollUnder c true s)], ?_, ?_, ?_, ?_, ?_⟩
  · rw [irun_snoc, e1, ← a1]; rfl
  · rw [irun_snoc, h1, ← a2]; rfl
  · intro k0 hk
    rw [h1] at hk
    have hes : (irun c.strat ievs).everSent = true := by rw [a2, hk]; rfl
    -- both sides grow by one exactly when the answer is an item
    rw [irun_snoc, hsum, e2, hes, a1, ← a3 k0 hk, Bool.true_and]
    cases (pollNext c.strat s.im (sipollUnder c true s)).2.isItem <;> rfl
  · intro h0
    rw [h3] at h0
    cases h0
  · intro hp
    obtain ⟨t, ht⟩ := a5 (h2 ▸ hp)
    exact ⟨t ++ [.poll (sipollUnder c true s)], by rw [ht]; rfl⟩

/-- **C08** (stream form) in the shape the predicate checks it -/
theorem ghost_bound {st : Strat} {s : SState} {m : SPredSt} (h : Ghost st s m) {k0 b : Nat}
    (hk : m.yieldedAtIntr = some k0) (hb : boundOf st true m.intrPre = some b) :
    s.yielded.length - k0 ≤ b := by
  obtain ⟨ievs, _, _, a3, _, a5⟩ := h
  -- the yields since the signal are the items the ghost run counted
  rw [← a3 k0 hk, Nat.add_sub_cancel_left]
  rcases boundOf_eq_some hb with ⟨hst, rfl⟩ | ⟨k, rfl, rfl⟩
  · cases hpre : m.intrPre with
    | false =>
      obtain ⟨f1, f2, _, _⟩ := finish_bound st hst ievs
      rw [f1, Nat.zero_add]
      exact f2
    | true =>
      -- the signal was the first event: the pre-signalled half of `finish_bound`
      obtain ⟨t, rfl⟩ := a5 hpre
      obtain ⟨_, _, f3, f4⟩ := finish_bound st hst t
      rw [f3, f4]
      exact Nat.le_refl 0
  · exact pollN_bound (k + 1) (Nat.succ_pos k) ievs

theorem ghost_transparent {st : Strat} {s : SState} {m : SPredSt} (h : Ghost st s m)
    (hcase : (st = .non ∨ st = .ignore) ∨ m.yieldedAtIntr = none) (u : Under) :
    (pollNext st s.im u).2 = transparentOut u := by
  obtain ⟨ievs, a1, a2, _, _, _⟩ := h
  rw [← a1]
  rcases hcase with hst | hn
  · exact noninterrupting_transparent st hst ievs u
  · rw [hn] at a2
    exact ((irun_nosig st ievs a2).1.poll st u).2

variable {x : MonCtx} {s : SState} {m : SPredSt}

/-- a context that is not `interruptible` sees what a plain stream shows: the strategy is transparent,
    or no signal has been seen -/
def SPlain (x : MonCtx) (m : SPredSt) : Prop :=
  x.interruptible = false → (x.c.strat = .non ∨ x.c.strat = .ignore) ∨ m.yieldedAtIntr = none

/-- the one note a model run can fail: `C05 none-iff-all`, and only when the guard `T` fails (see
    `spreds_hold`) -/
def Note.SOpen (T : Prop) (n : Note) : Prop :=
  (∃ wh b, n = .prop "C05" (wh ++ " none-iff-all") b) ∧ ¬ T

theorem Note.SOpen.mono {T T' : Prop} {n : Note} (h : T' → T) (ho : n.SOpen T) : n.SOpen T' :=
  ⟨ho.1, fun t => ho.2 (h t)⟩

/-- coupling kept, every note ok or open -/
abbrev SPredStep (x : MonCtx) (m : SPredSt) (e : Ev) (s1 : SState) : Prop :=
  SCpl x s1 (predStream x false m e).1 ∧ ∀ n ∈ (predStream x false m e).2, n.ok = true ∨ n.SOpen (SPlain x m)

theorem predStream_drop_notes (x : MonCtx) (m : SPredSt) (f : Nat) (w : Bool) :
    (predStream x false m (.drop f w)).2 =
      if (m.lastPending && !m.streamDropped) = true then
        [Note.prop "C05" ((Ev.drop f w).text ++ " wake-after-drop")
          ((m.wokenSincePoll || w) || allBlockedB x.c m.yielded (m.droppedRefs ++ [f]))] ++
        (if m.yieldedAtIntr.isSome then [] else
          [.prop "C03" ((Ev.drop f w).text ++ " clean stream parked for good")
            ((m.wokenSincePoll || w) || allBlockedB x.c m.yielded (m.droppedRefs ++ [f]))]) ++
        (if x.interruptible then [] else
          [.prop "C06" ((Ev.drop f w).text ++ " idle with a released function unstarted")
            ((m.wokenSincePoll || w) || allBlockedB x.c m.yielded (m.droppedRefs ++ [f]))])
      else [] := rfl

/-- the notes of a drop all carry the same value: woken, or nothing can be yielded -/
theorem predStream_drop_spec (x : MonCtx) (m : SPredSt) (f : Nat) (w : Bool)
    (h : m.lastPending = true → m.streamDropped = false →
      ((m.wokenSincePoll || w) || allBlockedB x.c m.yielded (m.droppedRefs ++ [f])) = true) :
    ∀ n ∈ (predStream x false m (.drop f w)).2, n.ok = true := by
  intro n hn
  rw [predStream_drop_notes] at hn
  by_cases hcond : (m.lastPending && !m.streamDropped) = true
  · rw [if_pos hcond] at hn
    simp only [Bool.and_eq_true, Bool.not_eq_true'] at hcond
    simp only [List.mem_append, List.mem_singleton, List.mem_ite_nil_left] at hn
    rcases hn with (rfl | ⟨-, rfl⟩) | ⟨-, rfl⟩ <;> exact h hcond.1 hcond.2
  · rw [if_neg hcond] at hn
    cases hn

theorem scpl_drop (hx : GoodCtx x) (h : SCpl x s m) {f : Nat} {s1 : SState} (hd : sdrop x.c s f = some s1) :
    SPredStep x m (.drop f (s.doneRxWaker && !s.streamDropped && decide (s.doneQ.length < x.c.cap))) s1 := by
  have hr1 : SReachable x.c true s1 := SReachable.step (.drop f) h.reach hd
  have hs := sdrop_spec hd
  have e7 := sdrop_wake hd
  generalize (s.doneRxWaker && !s.streamDropped && decide (s.doneQ.length < x.c.cap)) = w at e7 ⊢
  have hwake : m.lastPending = true → (m.wokenSincePoll || w) = s1.wake := fun hp => by rw [e7, h.wake hp]
  refine ⟨{ reach := hr1, yielded := hs.yielded ▸ h.yielded, live := by rw [hs.live, ← h.live]; rfl,
            dropped := by rw [hs.droppedRefs, ← h.dropped]; rfl, lastPending := hs.lastPending ▸ h.lastPending,
            sd := hs.streamDropped ▸ h.sd, wake := hwake,
            ghost := ghost_other h.ghost hs.im hs.yielded rfl rfl rfl },
    fun n hn => .inl (predStream_drop_spec x m f w (fun hp hsd => ?_) n hn)⟩
  rw [hwake hp, h.yielded, h.dropped, ← hs.yielded, ← hs.droppedRefs]
  have hi := sinv_reachable hx.good hr1
  rcases hi.core.parked_not_stalled hi.park (hs.streamDropped.trans (h.sd.symm.trans hsd))
    (hs.lastPending.trans (h.lastPending.symm.trans hp)) with hw | hb
  · rw [hw]; rfl
  · rw [allBlockedB_of_blocked hb]; exact Bool.or_true _

theorem predStream_yield (x : MonCtx) (m : SPredSt) {r : PollObs} {f : Nat} (hr : r = .some f ∨ r = .isome f) :
    predStream x false m (.poll r) =
      ({ m with nEv := m.nEv + 1, yielded := m.yielded ++ [f], live := m.live ++ [f], lastPending := false,
                wokenSincePoll := false },
       startNotes x (Ev.poll r).text m.yielded m.live m.droppedRefs f ++
       [.prop "C05" ((Ev.poll r).text ++ " not-after-end") (decide (m.yielded.length < x.c.n))] ++
       c08Notes (Ev.poll r).text m.yieldedAtIntr (boundOf x.c.strat true m.intrPre) x.interruptible
         m.yielded.length) := by
  rcases hr with rfl | rfl <;> rfl

theorem scpl_yield (hx : GoodCtx x) (h : SCpl x s m) (hsd : s.streamDropped = false) {f : Nat}
    (hlp : (sipoll x.c true s).1.lastPending = false)
    (hr : sipollObs x.c true s = .some f ∨ sipollObs x.c true s = .isome f) :
    SPredStep x m (.poll (sipollObs x.c true s)) (sipoll x.c true s).1 := by
  obtain ⟨k1, k2, k3, k4, -, -⟩ := sipollObs_spec x.c true s
  rw [show (sipollObs x.c true s).ys = [f] by rcases hr with e | e <;> rw [e] <;> rfl] at k1 k2
  have hr1 : SReachable x.c true (sipoll x.c true s).1 := .step .poll h.reach (sstep_poll_iff.mpr ⟨hsd, rfl⟩)
  obtain ⟨g1, g2, g3⟩ := predStream_keeps x m (e := .poll (sipollObs x.c true s)) (fun e => by cases e)
  have hg := ghost_poll h.ghost g1 g2 g3
  generalize sipollObs x.c true s = r at hr hg ⊢
  generalize (sipoll x.c true s).1 = s1 at k1 k2 k3 k4 hlp hr1 hg ⊢
  show SCpl x s1 (predStream x false m (.poll r)).1 ∧ _
  rw [predStream_yield x m hr] at hg ⊢
  have hi1 := (sinv_reachable hx.good hr1).core
  have hnd : (s.yielded ++ [f]).Nodup := k1 ▸ (List.nodup_append.mp (stream_yield_nodup hx.good hr1)).2.1
  have hfy1 : f ∈ s1.yielded := k1 ▸ List.mem_concat_self
  have hfl1 : f ∈ s1.live := k2 ▸ List.mem_concat_self
  have hlt : ∀ v ∈ s.yielded ++ [f], v < x.c.n := fun v hv => hi1.bound v (Or.inr (k1 ▸ hv))
  have hanc : ∀ u, ReachP x.c.D u f → u ∈ m.droppedRefs := fun u hu =>
    h.dropped ▸ k3 ▸ (stream_yield_after_ancestors hx.good hr1 (Or.inr hfy1) hu).1
  refine ⟨{ reach := hr1, yielded := by rw [k1, ← h.yielded], live := by rw [k2, ← h.live],
            dropped := k3 ▸ h.dropped, lastPending := hlp.symm, sd := k4 ▸ h.sd,
            wake := fun hp => (by cases hp), ghost := hg }, fun n hn => .inl ?_⟩
  rcases List.mem_append.mp hn with hn | hn
  · rcases List.mem_append.mp hn with hn | hn
    · -- C03, C01, C02, built-graph predecessors
      refine startNotes_ok (h.yielded ▸ (nodup_append_singleton.mp hnd).2) ?_
        (fun u hu => hanc u (ReachP.congr hx.userSub (reachPlus_sound hu)))
        (fun p hp => hanc p (ReachP.edge (mem_parents.mp hp))) n hn
      -- C01: the live refs and `f` are live together after the yield: none is ordered before another
      refine hx.no_conflict (hlt f List.mem_concat_self) fun u hu => ?_
      have hul1 : u ∈ s1.live := k2 ▸ List.mem_append_left _ (h.live ▸ hu)
      exact ⟨hi1.bound u (Or.inr (hi1.liveYielded u hul1)), stream_no_ancestor_live hx.good hr1 hul1 hfl1,
        stream_no_ancestor_live hx.good hr1 hfl1 hul1⟩
    · -- C05 not-after-end: the yields are distinct and below `n`
      rw [List.mem_singleton.mp hn]
      have := nodup_bounded_length hnd hlt
      rw [List.length_append, List.length_singleton] at this
      exact decide_eq_true (h.yielded ▸ this)
  · -- C08
    refine c08Notes_spec (Q := fun n => n.ok = true) (fun k0 b hk hb _ => decide_eq_true ?_) n hn
    have := ghost_bound hg hk hb
    rw [k1, List.length_append, List.length_singleton] at this
    rw [h.yielded]
    exact this

/-- a poll that yields nothing keeps the coupling, whatever `lastPending` / `wokenSincePoll` the monitor
    sets, if they agree with the model's -/
theorem scpl_poll_noYield (h : SCpl x s m) (hsd : s.streamDropped = false)
    (hys : (sipollObs x.c true s).ys = []) (lp : Bool) (hlp : (sipoll x.c true s).1.lastPending = lp)
    (w : Bool) (hw : lp = true → w = (sipoll x.c true s).1.wake) :
    SCpl x (sipoll x.c true s).1 { m with nEv := m.nEv + 1, lastPending := lp, wokenSincePoll := w } := by
  obtain ⟨k1, k2, k3, k4, -, -⟩ := sipollObs_spec x.c true s
  rw [hys, List.append_nil] at k1 k2
  exact { reach := .step .poll h.reach (sstep_poll_iff.mpr ⟨hsd, rfl⟩), yielded := k1 ▸ h.yielded,
          live := k2 ▸ h.live, dropped := k3 ▸ h.dropped, lastPending := hlp.symm, sd := k4 ▸ h.sd,
          wake := hw, ghost := ghost_poll h.ghost rfl rfl rfl }

theorem predStream_pending_notes (x : MonCtx) (m : SPredSt) (w : Bool) :
    (predStream x false m (.poll (.pending w))).2 =
      (if w then [] else [Note.prop "C05" (Ev.poll (.pending w)).text (allBlockedB x.c m.yielded m.droppedRefs)]) ++
      (if w || m.yieldedAtIntr.isSome then [] else
        [.prop "C03" ((Ev.poll (.pending w)).text ++ " clean stream can never yield the rest")
          (allBlockedB x.c m.yielded m.droppedRefs)]) ++
      (if w || x.interruptible then [] else
        [.prop "C06" (Ev.poll (.pending w)).text (allBlockedB x.c m.yielded m.droppedRefs)]) := rfl

/-- the notes of a `Pending` answer without wake-up all say: nothing can be yielded -/
theorem predStream_pending_spec (x : MonCtx) (m : SPredSt) (w : Bool)
    (h : w = false → allBlockedB x.c m.yielded m.droppedRefs = true) :
    ∀ n ∈ (predStream x false m (.poll (.pending w))).2, n.ok = true := by
  intro n hn
  rw [predStream_pending_notes] at hn
  cases w with
  | true => cases hn
  | false =>
    simp only [Bool.false_eq_true, if_false, Bool.false_or, List.mem_append, List.mem_singleton,
      List.mem_ite_nil_left] at hn
    rcases hn with (rfl | ⟨-, rfl⟩) | ⟨-, rfl⟩ <;> exact h rfl

theorem predStream_none_notes (x : MonCtx) (m : SPredSt) :
    (predStream x false m (.poll .none)).2 =
      if (x.interruptible && m.yieldedAtIntr.isSome) = true then [] else
        [.prop "C05" ((Ev.poll .none).text ++ " none-iff-all") (m.yielded.length == x.c.n)] := rfl

/-- the note of a `None` answer is emitted for a plain context or before any signal; under `SPlain`
    the wrapper is then transparent or unsignalled, which is all the model's reason needs -/
theorem predStream_none_spec (x : MonCtx) (m : SPredSt)
    (h : (x.c.strat = .non ∨ x.c.strat = .ignore) ∨ m.yieldedAtIntr = none → m.yielded.length = x.c.n) :
    ∀ n ∈ (predStream x false m (.poll .none)).2, n.ok = true ∨ n.SOpen (SPlain x m) := by
  intro n hn
  rw [predStream_none_notes] at hn
  split at hn
  · cases hn
  · rename_i hcond
    rw [List.mem_singleton.mp hn]
    by_cases hT : SPlain x m
    · refine .inl (beq_iff_eq.mpr (h ?_))
      cases hi : x.interruptible with
      | false => exact hT hi
      | true => exact .inr (by simpa [hi] using hcond)
    · exact .inr ⟨⟨_, _, rfl⟩, hT⟩

/-- only the `none` note (`C05 none-iff-all`) needs the guard; see `spreds_hold_original_false` -/
theorem scpl_poll (hx : GoodCtx x) (h : SCpl x s m) (hsd : s.streamDropped = false) :
    SPredStep x m (.poll (sipollObs x.c true s)) (sipoll x.c true s).1 := by
  have k5 := (sipollObs_spec x.c true s).lastPending
  rcases (sipollObs_spec x.c true s).table with ⟨f, _, ⟨ho, hr⟩ | ⟨ho, hr⟩⟩ | ⟨_, ⟨ho, hr⟩ | ⟨ho, hr⟩ | ⟨ho, hr⟩⟩
  · exact scpl_yield hx h hsd (by rw [k5, ho]; rfl) (.inl hr)
  · exact scpl_yield hx h hsd (by rw [k5, ho]; rfl) (.inr hr)
  · have hc := scpl_poll_noYield h hsd (by rw [hr]; rfl) false (by rw [k5, ho]; rfl) m.wokenSincePoll
      (fun hp => by cases hp)
    rw [hr]
    exact ⟨hc, fun n hn => nomatch hn⟩
  · -- None: the wrapper was transparent, so the stream itself ended, which it does when all is yielded
    have hc := scpl_poll_noYield h hsd (by rw [hr]; rfl) false (by rw [k5, ho]; rfl) m.wokenSincePoll
      (fun hp => by cases hp)
    rw [hr]
    refine ⟨hc, predStream_none_spec x m fun hcase => ?_⟩
    have ht := ghost_transparent h.ghost hcase (sipollUnder x.c true s)
    rw [← sipoll_out, ho] at ht
    rw [h.yielded]
    exact (spoll_none_iff hx.good (sinv_reachable hx.good h.reach).core).mp
      (sipollUnder_none (transparentOut_endd ht.symm))
  · have hc := scpl_poll_noYield h hsd (by rw [hr]; rfl) true (by rw [k5, ho]; rfl) _ (fun _ => rfl)
    have k1 := (sipollObs_spec x.c true s).yielded
    rw [hr, show (PollObs.pending (sipoll x.c true s).1.wake).ys = [] from rfl, List.append_nil] at k1
    rw [hr]
    refine ⟨hc, fun n hn => .inl (predStream_pending_spec x m _ (fun hw => ?_) n hn)⟩
    rw [h.yielded, h.dropped, ← k1, ← (sipollObs_spec x.c true s).droppedRefs]
    exact allBlockedB_of_blocked
      ((pending_not_stalled hx.good h.reach hsd ho).resolve_left (by rw [hw]; exact Bool.false_ne_true))

theorem scpl_step (hx : GoodCtx x) (h : SCpl x s m) {a : SAction} {s1 : SState}
    (hs : sstep? x.c true s a = some s1) : ∃ e, sStepEvents x.c s a = [e] ∧ SPredStep x m e s1 := by
  cases a with
  | poll =>
    obtain ⟨hsd, rfl⟩ := sstep_poll_iff.mp hs
    exact ⟨_, rfl, scpl_poll hx h hsd⟩
  | drop f => exact ⟨_, rfl, scpl_drop hx h (sstep_drop_iff.mp hs)⟩
  | dropStream =>
    obtain ⟨hsd, rfl⟩ := sstep_dropStream_iff.mp hs
    exact ⟨_, rfl, { reach := .step .dropStream h.reach (sstep_dropStream_iff.mpr ⟨hsd, rfl⟩)
                     yielded := h.yielded, live := h.live, dropped := h.dropped, lastPending := h.lastPending,
                     sd := rfl, wake := h.wake, ghost := ghost_other h.ghost rfl rfl rfl rfl rfl },
      fun n hn => (by cases hn)⟩
  | interrupt =>
    obtain rfl := sstep_interrupt_iff.mp hs
    exact ⟨_, rfl, { reach := .step .interrupt h.reach rfl
                     yielded := h.yielded, live := h.live, dropped := h.dropped, lastPending := h.lastPending,
                     sd := h.sd, wake := h.wake, ghost := ghost_intr h.ghost h.yielded },
      fun n hn => (by cases hn)⟩

end FG
