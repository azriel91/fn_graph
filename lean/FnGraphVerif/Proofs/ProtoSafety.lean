/-
  Proofs/ProtoSafety.lean — the two safety invariants are inductive.  `Inv0` needs `GoodCfg` only.
  `Inv` adds three clauses (`short`, `sDoneInfl`, `retFrozen`, here `InvApi`) that also need
  `Cfg.ApiOk`: a short-circuiting run that is not sequential (no real API produces one: every
  `try_fold*` is sequential) can finish the scheduler with another function still in flight;
  `cx_reachable` is such a run.
-/
import FnGraphVerif.Proofs.Inv0Steps
import FnGraphVerif.Proofs.ExampleCfgs
import FnGraphVerif.Proofs.RunBase
namespace FG

/-- every real API kind: the short-circuiting `try_fold*` family is sequential -/
def Cfg.ApiOk (c : Cfg) : Prop := c.errMode = .shortCircuit → c.sequential = true

/-- in `cxCfg_F` (two unrelated functions, `shortCircuit`, not sequential, so `¬ cxCfg_F.ApiOk`) both
    functions are handed out, function 1 fails, the scheduler finishes and the call returns `Err 1`
    while function 0 is still in flight -/
def cxTrace_F : List Action :=
  [.schedPoll, .schedPoll, .invoke 0, .invoke 1, .finish 1 false, .queuerEnd, .ret]

theorem cxTrace_check : (run cxCfg_F (init cxCfg_F) cxTrace_F).any
    (fun s => s.sDone && s.result == some (.err 1) && s.inflight == [0]) = true := by decide

example : (run cxCfg_F (init cxCfg_F) cxTrace_F).any
    (fun s => s.sDone && s.result == some (.err 1) && s.inflight == [0]) = true := cxTrace_check

example : ¬ cxCfg_F.ApiOk := by unfold Cfg.ApiOk; decide

theorem cx_reachable : ∃ s, Reachable cxCfg_F s ∧ s.sDone = true ∧ s.result = some (.err 1) ∧ s.inflight = [0] := by
  obtain ⟨s, hr, hp⟩ := reachable_of_any cxTrace_check
  simp only [Bool.and_eq_true, beq_iff_eq] at hp
  exact ⟨s, hr, hp.1.1, hp.1.2, hp.2⟩

/-- `Inv` is not an invariant under `GoodCfg` alone -/
theorem inv_needs_apiOk : ¬ (∀ (c : Cfg) (s : PState), GoodCfg c → Reachable c s → Inv c s) := by
  intro h
  obtain ⟨s, hr, hsd, _, hi⟩ := cx_reachable
  have := (h cxCfg_F s cxCfg_good_F hr).sDoneInfl hsd
  rw [hi] at this; cases this

theorem inv0_init {c : Cfg} (hc : GoodCfg c) : Inv0 c (init c) := by
  have hlen : (preload c).length ≤ c.n :=
    nodup_bounded_length hc.preNodup (fun x hx => ((hc.preMem x).mp hx).1)
  have hcap := c.n_le_cap
  unfold init
  refine
    { cnt := ?_, cntLen := hc.countsLen, relNodup := by simp, doneEnded := by simp,
      ready := ?_, queueNodup := ?_, bound := ?_,
      inflHanded := by simp, inflNodup := by simp, endNodup := by simp, inflNotEnded := by simp,
      endedHanded := by simp, handedSplit := by simp, invHanded := by simp, invNodup := by simp,
      endedInvoked := by simp, noPanic := ?_, qRem := by simp, sRem := by simp, errs := by simp,
      failedMode := by simp, short0 := by simp, shortOnly := by simp, shortDone := by simp,
      limSeq := by simp, limPar := by simp, sDoneInfl0 := by simp, ret0 := by simp }
  · intro v
    simp only [hc.counts v, unreleased_nil]
  · intro v hv p hp
    simp only [List.not_mem_nil, or_false, reduceCtorEq] at hv
    rw [((hc.preMem v).mp hv).2] at hp
    cases hp
  · simpa using hc.preNodup
  · intro v hv
    simp only [List.not_mem_nil, or_false, reduceCtorEq] at hv
    exact ((hc.preMem v).mp hv).1
  · simp only [decide_eq_false_iff_not]; omega

theorem inv0_step {c : Cfg} (hc : GoodCfg c) {s s' : PState} {a : Action}
    (hinv : Inv0 c s) (h : step? c s a = some s') : Inv0 c s' := by
  cases a with
  | queuerRecv => exact inv0_queuerRecv hc hinv h
  | queuerEnd => exact inv0_queuerEnd hinv h
  | schedPoll => exact inv0_schedPoll hinv h
  | invoke f => exact inv0_invoke hinv h
  | finish f ok => exact inv0_finish hinv h
  | interrupt => exact inv0_interrupt hinv h
  | schedEnd => exact inv0_schedEnd hinv h
  | ret => exact inv0_ret hinv h

theorem inv0_reachable {c : Cfg} (hc : GoodCfg c) {s : PState} (hr : Reachable c s) : Inv0 c s :=
  hr.invariant (inv0_step hc) (inv0_init hc)

/-- no `expect`, `usize` underflow, `try_write` failure or send on a full channel in any reachable
    state (`no_panic` of `Theorems/RunSafety.lean`, for the proof modules) -/
theorem Reachable.noPanic {c : Cfg} {s : PState} (hr : Reachable c s) (hc : GoodCfg c) : s.panic = false :=
  (inv0_reachable hc hr).noPanic

/-- the clauses of `Inv` beyond `Inv0` -/
structure InvApi (c : Cfg) (s : PState) : Prop where
  short : c.errMode = .shortCircuit → s.failed = s.shortErr.toList
  sDoneInfl : s.sDone = true → s.inflight = []
  retFrozen : ∀ r, s.result = some r → r = mkRet c s ∧ s.sDone = true ∧ s.qDone = true

theorem Inv.of_parts {c : Cfg} {s : PState} (h0 : Inv0 c s) (hx : InvApi c s) : Inv c s :=
  { h0, hx with }

theorem Inv.toInv0 {c : Cfg} {s : PState} (h : Inv c s) : Inv0 c s :=
  { h with
    short0 := fun hm hn => by have := h.short hm; rw [hn] at this; exact this
    sDoneInfl0 := fun hd _ => h.sDoneInfl hd
    ret0 := fun r hr => by
      obtain ⟨h1, h2, h3⟩ := h.retFrozen r hr
      exact ⟨h2, h3, fun _ => h1, fun fin p np e he => mkRet_outcome (h1 ▸ he)⟩ }

theorem invApi_init {c : Cfg} : InvApi c (init c) := by
  unfold init
  exact { short := by simp, sDoneInfl := by simp, retFrozen := by simp }

theorem invApi_step {c : Cfg} (hapi : c.ApiOk) {s s' : PState} {a : Action}
    (h0 : Inv0 c s) (hx : InvApi c s) (h : step? c s a = some s') : InvApi c s' := by
  cases a with
  | queuerRecv =>
    obtain ⟨_, _, x, rest, _, rfl⟩ := step_queuerRecv_iff.mp h
    exact { hx with }
  | queuerEnd =>
    obtain ⟨_, _, _, rfl⟩ := step_queuerEnd_iff.mp h
    exact { hx with
      retFrozen := fun r hr => ⟨(hx.retFrozen r hr).1, (hx.retFrozen r hr).2.1, rfl⟩ }
  | schedPoll =>
    obtain ⟨hsd, hu, h | h | h⟩ := schedPoll_shapes h
    · obtain ⟨m, se, rx, dtx, rfl⟩ := h
      exact { hx with }
    · obtain ⟨m, ca, f, rest, hq, rfl⟩ := h
      unfold handOut
      exact { hx with
        sDoneInfl := fun hd => by rw [hsd] at hd; cases hd
        retFrozen := fun r hr => by have := (hx.retFrozen r hr).2.1; rw [hsd] at this; cases this }
    · obtain ⟨m, f, rest, hq, rfl⟩ := h
      exact { hx with }
  | invoke f =>
    obtain ⟨_, _, rfl⟩ := step_invoke_iff.mp h
    exact { hx with }
  | finish f ok =>
    obtain ⟨⟨hf, _, _⟩, rfl⟩ := step_finish_iff.mp h
    -- with `f` in flight the scheduler is not done, hence nothing has returned or short-circuited
    have hsd : s.sDone = false := by
      cases hd : s.sDone with
      | false => rfl
      | true => have := hx.sDoneInfl hd; rw [this] at hf; cases hf
    have hres : ∀ r, s.result ≠ some r := fun r hr => by
      have := (hx.retFrozen r hr).2.1; rw [hsd] at this; cases this
    by_cases hm : finShort c ok = true
    · simp only [finShort, Bool.and_eq_true, Bool.not_eq_true', decide_eq_true_eq] at hm
      obtain ⟨rfl, hm⟩ := hm
      rw [finW_short hm]
      have hnone : s.shortErr = none := by
        cases hse : s.shortErr with
        | none => rfl
        | some g => have := h0.shortDone (by simp [hse]); rw [hsd] at this; cases this
      have hlen := h0.limSeq (hapi hm)
      exact {
        short := fun _ => by
          have := hx.short hm
          rw [hnone] at this
          show s.failed ++ [f] = [f]
          rw [this]; rfl
        sDoneInfl := fun _ => by
          -- sequential: `f` is the only function in flight
          show s.inflight.erase f = []
          refine List.eq_nil_iff_forall_not_mem.mpr fun g hg => ?_
          have hgi := List.mem_of_mem_erase hg
          rw [eq_of_mem_of_length_le_one hlen hgi hf] at hg
          exact (h0.inflNodup.mem_erase_iff.mp hg).1 rfl
        retFrozen := fun r hr => absurd hr (hres r) }
    · have e1 : (finW c s f ok).sDone = false := by
        rw [finW_sDone, hsd, (Bool.not_eq_true _).mp hm]; rfl
      exact {
        short := fun hm' => by
          cases ok with
          | true => exact hx.short hm'
          | false => simp [finShort, hm'] at hm
        sDoneInfl := fun hd => by rw [e1] at hd; cases hd
        retFrozen := fun r hr => absurd hr (hres r) }
  | interrupt =>
    cases step_interrupt_iff.mp h
    exact { hx with }
  | schedEnd =>
    obtain ⟨_, hi, _, rfl⟩ := step_schedEnd_iff.mp h
    exact { hx with
      sDoneInfl := fun _ => hi
      retFrozen := fun r hr => ⟨(hx.retFrozen r hr).1, rfl, (hx.retFrozen r hr).2.2⟩ }
  | ret =>
    obtain ⟨hsd, hqd, _, rfl⟩ := step_ret_iff.mp h
    exact { hx with
      retFrozen := fun r hr => ⟨(Option.some.inj hr).symm, hsd, hqd⟩ }

theorem inv_init {c : Cfg} (hc : GoodCfg c) : Inv c (init c) :=
  Inv.of_parts (inv0_init hc) invApi_init

theorem inv_step {c : Cfg} (hc : GoodCfg c) (hapi : c.ApiOk) {s s' : PState} {a : Action}
    (hinv : Inv c s) (h : step? c s a = some s') : Inv c s' :=
  Inv.of_parts (inv0_step hc hinv.toInv0 h) (invApi_step hapi hinv.toInv0 { hinv with } h)

theorem inv_reachable {c : Cfg} (hc : GoodCfg c) (hapi : c.ApiOk) {s : PState} (hr : Reachable c s) :
    Inv c s :=
  hr.invariant (inv_step hc hapi) (inv_init hc)

theorem Inv.return_no_inflight {c : Cfg} {s : PState} (hinv : Inv c s) (h : s.result.isSome = true) : s.inflight = [] := by
  obtain ⟨r, hres⟩ := Option.isSome_iff_exists.mp h
  exact hinv.sDoneInfl (hinv.retFrozen r hres).2.1

theorem Inv.shortCircuit_first_error {c : Cfg} {s : PState} (hinv : Inv c s) {f : Nat} (hf : s.shortErr = some f) :
    c.errMode = .shortCircuit ∧ s.failed = [f] ∧ s.sDone = true ∧ step? c s .schedPoll = none ∧
    (∀ r, s.result = some r → r = .err f) :=
  let ⟨hm, hsd, hp⟩ := hinv.toInv0.shortErr_some hf
  ⟨hm, by have := hinv.short hm; rwa [hf] at this, hsd, hp,
    fun r hres => by rw [(hinv.retFrozen r hres).1, mkRet_short hf]⟩

/-- `Inv0` does not mention `im` -/
theorem inv0_initWith {c : Cfg} (hc : GoodCfg c) (s0 r0 : Bool) (k0 : Nat) : Inv0 c (initWith c s0 r0 k0) :=
  (inv0_init hc).irrel _ _ _ _ _ _

theorem inv0_reachableW {c : Cfg} {s : PState} (hc : GoodCfg c) {s0 r0 : Bool} {k0 : Nat}
    (hr : ReachableW c s0 r0 k0 s) : Inv0 c s :=
  hr.invariant (inv0_step hc) (inv0_initWith hc s0 r0 k0)

/-- `Inv` does not mention `im` (by parts: rebuilding all of `Inv` with `{ inv_init hc with }` makes the
    elaborator compare the two states clause by clause) -/
theorem inv_initWith {c : Cfg} (hc : GoodCfg c) (s0 r0 : Bool) (k0 : Nat) : Inv c (initWith c s0 r0 k0) :=
  Inv.of_parts (inv0_initWith hc s0 r0 k0) { (invApi_init : InvApi c (init c)) with }

theorem inv_reachableW {c : Cfg} {s : PState} (hc : GoodCfg c) (hapi : c.ApiOk) {s0 r0 : Bool} {k0 : Nat}
    (hr : ReachableW c s0 r0 k0 s) : Inv c s :=
  hr.invariant (inv_step hc hapi) (inv_initWith hc s0 r0 k0)

end FG
