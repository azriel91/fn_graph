/-
  Proofs/PartialRun.lean — what holds of every "run a list of actions through a partial step function"
  (`run`, `srun`, `mrun`, `mrunA`, `mirun`): each of them is defined by its own recursion; `IsRun`
  says they are all the same iteration, and the lemmas are proved once.
-/
namespace FG

structure IsRun {σ α : Type} (step : σ → α → Option σ) (run : σ → List α → Option σ) : Prop where
  nil : ∀ s, run s [] = some s
  cons : ∀ s a as, run s (a :: as) = (step s a).bind (fun s1 => run s1 as)

namespace IsRun
variable {σ α : Type} {step : σ → α → Option σ} {run : σ → List α → Option σ} (R : IsRun step run)
include R

theorem cons_some {s s1 : σ} {a : α} (h : step s a = some s1) (as : List α) : run s (a :: as) = run s1 as := by
  rw [R.cons, h]; rfl

theorem append (s : σ) (as bs : List α) : run s (as ++ bs) = (run s as).bind (fun s1 => run s1 bs) := by
  induction as generalizing s with
  | nil => rw [R.nil]; rfl
  | cons a as ih =>
    rw [List.cons_append, R.cons, R.cons]
    cases step s a with
    | none => rfl
    | some s1 => exact ih s1

/-- induction along a run that ends somewhere: what `rel` and `invariant` are instances of -/
theorem run_induction {P : σ → List α → σ → Prop} (hnil : ∀ s, P s [] s)
    (hcons : ∀ s a s1 as s', step s a = some s1 → run s1 as = some s' → P s1 as s' → P s (a :: as) s') :
    ∀ {as : List α} {s s' : σ}, run s as = some s' → P s as s' := by
  intro as
  induction as with
  | nil => intro s s' h; rw [R.nil] at h; exact Option.some.inj h ▸ hnil s
  | cons a as ih =>
    intro s s' h
    rw [R.cons] at h
    cases hs : step s a with
    | none => rw [hs] at h; cases h
    | some s1 => rw [hs] at h; exact hcons s a s1 as s' hs h (ih h)

/-- A reflexive and transitive relation that every step by an allowed action establishes holds
    between the two ends of every run of allowed actions (`Q s s' := P s → P s'`: invariants;
    `Q s s' := f s' = f s`: frames; `Q s s' := f s <+: f s'`: monotone fields). -/
theorem rel {Q : σ → σ → Prop} {ok : α → Prop} (refl : ∀ s, Q s s)
    (trans : ∀ {s t u}, Q s t → Q t u → Q s u) (hstep : ∀ {s a s'}, ok a → step s a = some s' → Q s s')
    {as : List α} {s s' : σ} (hok : ∀ a ∈ as, ok a) (h : run s as = some s') : Q s s' :=
  R.run_induction (P := fun s as s' => (∀ a ∈ as, ok a) → Q s s') (fun s _ => refl s)
    (fun _ a _ _ _ hs _ ih hok =>
      trans (hstep (hok a List.mem_cons_self) hs) (ih fun b hb => hok b (List.mem_cons_of_mem _ hb))) h hok

theorem invariant {P : σ → Prop} (hP : ∀ {s s1 a}, P s → step s a = some s1 → P s1)
    {as : List α} {s s' : σ} (h0 : P s) (h : run s as = some s') : P s' :=
  R.rel (Q := fun s s' => P s → P s') (ok := fun _ => True) (fun _ h => h) (fun h1 h2 h => h2 (h1 h))
    (fun _ hs h => hP h hs) (fun _ _ => trivial) h h0

/-- the same for the state `(run s as).getD d` of an enabled schedule (the form the examples use) -/
theorem invariant_getD {P : σ → Prop} (hP : ∀ {s s1 a}, P s → step s a = some s1 → P s1)
    {as : List α} {s d : σ} (h0 : P s) (h : (run s as).isSome = true) : P ((run s as).getD d) := by
  obtain ⟨s', hs'⟩ := Option.isSome_iff_exists.mp h
  rw [hs']
  exact R.invariant hP h0 hs'

end IsRun
end FG
