/-
  With `NonInterruptible` / `IgnoreInterruptions` the `interrupt` actions of a schedule can be
  deleted: the run protocol never looks at `im` except through the answer of `pollNext`, and that
  answer is the underlying one (`pollNext_transparent`).
-/
import FnGraphVerif.Proofs.IntrCompose
import FnGraphVerif.Proofs.RunBase
namespace FG

/-- forget the state of the `InterruptibleStream` machine -/
def clrIm (s : PState) : PState := { s with im := {} }

theorem clrIm_setIm (s : PState) (m : IM) : clrIm { s with im := m } = clrIm s := rfl

theorem eq_setIm_of_clrIm {s t : PState} (h : clrIm s = clrIm t) : s = { t with im := s.im } := by
  obtain ⟨⟩ := s
  obtain ⟨⟩ := t
  simp only [clrIm, PState.mk.injEq] at h ⊢
  simp_all

theorem step_setIm (c : Cfg) (s : PState) (m : IM) {a : Action} (h1 : a ≠ .interrupt)
    (h2 : a ≠ .schedPoll) :
    step? c { s with im := m } a = (step? c s a).map (fun s' => { s' with im := m }) := by
  cases a with
  | interrupt => exact absurd rfl h1
  | schedPoll => exact absurd rfl h2
  | queuerRecv =>
    simp only [step_qr]
    split
    · rfl
    · cases s.doneQ <;> rfl
  | queuerEnd => rw [step_qe, step_qe]; split <;> rfl
  | invoke f => rw [step_iv, step_iv]; split <;> rfl
  | finish f ok => rw [step_finish_eq, step_finish_eq]; split <;> rfl
  | schedEnd => rw [step_se, step_se]; split <;> rfl
  | ret => rw [step_rt, step_rt]; split <;> rfl

/-- `spApply` stores the machine it is given and otherwise reads `s` and the answer only -/
theorem spApply_clrIm (c : Cfg) (s : PState) (m1 m1' m2 m2' : IM) (o : Out) :
    (spApply c { s with im := m1 } m1' o).map clrIm =
      (spApply c { s with im := m2 } m2' o).map clrIm := by
  cases o with
  | pending | endd | intNone => rfl
  | noInt => simp only [spApply]; cases s.readyQ <;> rfl
  | intSome =>
    simp only [spApply]
    cases s.readyQ with
    | nil => rfl
    | cons f rest => simp only; split <;> rfl

theorem schedPoll_clrIm (c : Cfg) (s : PState) (m1 m2 : IM)
    (h : (pollNext c.strat m1 (readyUnder s)).2 = (pollNext c.strat m2 (readyUnder s)).2) :
    (step? c { s with im := m1 } .schedPoll).map clrIm =
      (step? c { s with im := m2 } .schedPoll).map clrIm := by
  have hu1 : readyUnder { s with im := m1 } = readyUnder s := rfl
  have hu2 : readyUnder { s with im := m2 } = readyUnder s := rfl
  have hg : spBlocked c { s with im := m1 } = spBlocked c { s with im := m2 } := rfl
  simp only [step_sp, hu1, hu2, hg, h]
  split
  · rfl
  · exact spApply_clrIm ..

/-- the simulation relation: equal up to `im`, neither machine interrupted -/
structure RIm (s t : PState) : Prop where
  eq : clrIm s = clrIm t
  sSig : s.im.sig = false
  sIan : s.im.ian = false
  tSig : t.im.sig = false
  tIan : t.im.ian = false

theorem Option.map_eq_map_cases {α β : Type} {f : α → β} {x y : Option α} (h : x.map f = y.map f) :
    (x = none ∧ y = none) ∨ ∃ a b, x = some a ∧ y = some b ∧ f a = f b := by
  cases x <;> cases y <;> simp_all

theorem RIm.step {c : Cfg} (hst : c.strat = .non ∨ c.strat = .ignore) {s t : PState} {a : Action}
    (ha : a ≠ .interrupt) (hR : RIm s t) :
    (step? c s a = none ∧ step? c t a = none) ∨
    (∃ s' t', step? c s a = some s' ∧ step? c t a = some t' ∧ RIm s' t') := by
  have hs := eq_setIm_of_clrIm hR.eq
  by_cases h2 : a = .schedPoll
  · subst h2
    obtain ⟨a1, a2, a3⟩ := pollNext_transparent hst hR.sSig hR.sIan (readyUnder t)
    obtain ⟨b1, b2, b3⟩ := pollNext_transparent hst hR.tSig hR.tIan (readyUnder t)
    -- both machines answer `transparentOut (readyUnder t)`, so `schedPoll_clrIm` applies
    have key := schedPoll_clrIm c t s.im t.im (by rw [a3, b3])
    rw [← hs] at key
    have hru : readyUnder s = readyUnder t := by rw [hs]; rfl
    rcases Option.map_eq_map_cases key with hn | ⟨s', t', hs1, ht1, e⟩
    · exact .inl hn
    · refine .inr ⟨s', t', hs1, ht1, e, ?_, ?_, ?_, ?_⟩
      · rw [(step_schedPoll hs1).1, hru]; exact a1
      · rw [(step_schedPoll hs1).1, hru]; exact a2
      · rw [(step_schedPoll ht1).1]; exact b1
      · rw [(step_schedPoll ht1).1]; exact b2
  · have key := step_setIm c t s.im ha h2
    rw [← hs] at key
    cases ht1 : step? c t a with
    | none => rw [ht1] at key; exact Or.inl ⟨key, rfl⟩
    | some t' =>
      rw [ht1] at key
      obtain ⟨f1, _, _, _⟩ := step_other ht1 ha h2
      refine Or.inr ⟨_, t', key, rfl, rfl, hR.sSig, hR.sIan, ?_, ?_⟩
      · rw [f1]; exact hR.tSig
      · rw [f1]; exact hR.tIan
theorem RIm.interrupt {s t : PState} (hR : RIm s t) :
    RIm { s with im := { s.im with sent := true } } t :=
  ⟨hR.eq, hR.sSig, hR.sIan, hR.tSig, hR.tIan⟩

theorem RIm.initWith (c : Cfg) (s0 r0 : Bool) (k0 : Nat) : RIm (initWith c s0 r0 k0) (init c) :=
  ⟨clrIm_setIm _ _, rfl, rfl, rfl, rfl⟩

theorem run_filter_interrupt {c : Cfg} (hst : c.strat = .non ∨ c.strat = .ignore)
    (as : List Action) (s t : PState) (hR : RIm s t) :
    (run c s as).map clrIm = (run c t (as.filter (· ≠ .interrupt))).map clrIm := by
  induction as generalizing s t with
  | nil => simp only [List.filter_nil, run, Option.map_some, hR.eq]
  | cons a as ih =>
    by_cases ha : a = .interrupt
    · subst ha
      have hf : (Action.interrupt :: as).filter (· ≠ .interrupt) = as.filter (· ≠ .interrupt) := by
        simp
      rw [hf, run_cons_bind, step_int]
      exact ih _ t hR.interrupt
    · have hf : (a :: as).filter (· ≠ .interrupt) = a :: as.filter (· ≠ .interrupt) := by
        simp [ha]
      rw [hf, run_cons_bind, run_cons_bind]
      rcases RIm.step hst ha hR with ⟨e1, e2⟩ | ⟨s1, t1, e1, e2, hR'⟩
      · rw [e1, e2]; rfl
      · rw [e1, e2]
        exact ih s1 t1 hR'

end FG
