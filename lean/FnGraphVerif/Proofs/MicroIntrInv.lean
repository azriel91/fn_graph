/-
  Inductive invariant of the micro-step interruptible stream: the invariant `MInv` of the inner micro
  machine (it does not mention the wrapper's `im`) holds at every micro state, plus the shape facts
  tying the wrapper's program counter to the inner one.  `RTInv`: the two ghost counters `yAfter` and
  `yAfterRT` differ by at most the one item of the poll that was past its check when the signal arrived.
-/
import FnGraphVerif.Proofs.MicroIntrMachine
import FnGraphVerif.Proofs.MicroRefine
namespace FG

/-- `MInv` does not mention the wrapper's `im`, and un-parking the consumer only weakens it: what the
    wrapper's `check` (with `lp = lastPending`) and `finish` do to the inner state -/
theorem minv_setIm {c : Cfg} {m : MState} (h : MInv c m) (i : IM) {lp : Bool}
    (hlp : lp = true → m.s.lastPending = true) :
    MInv c { m with s := { m.s with im := i, lastPending := lp } } := by
  have hcore := h.core
  exact ⟨hcore.of_flags _ _ _ _ _, fun hp => ⟨fun hl => (h.park hp).parked (hlp hl),
    fun hl => (h.park hp).parkedWake (hlp hl)⟩, h.inPoll, h.registered⟩

structure MIInv (c : Cfg) (x : MIState) : Prop where
  minv : MInv c x.m
  wIdle : x.w = .idle → x.m.pc = .idle
  wReturned : x.w = .returned → x.m.pc = .idle ∧ x.m.s.streamDropped = false ∧
    ∃ r, x.m.result = some r ∧ (x.m.s.lastPending = true ↔ r = .pending)

theorem miinv_step {c : Cfg} (hc : GoodCfg c) {x x' : MIState} {a : MIAction} (h : MIInv c x)
    (hs : mistep? c x a = some x') : MIInv c x' := by
  cases a with
  | check =>
    obtain ⟨hw0, hsd, ⟨_, rfl⟩ | ⟨hpi, rfl⟩⟩ := mistep_check_iff.mp hs
    · unfold afterCheck
      exact ⟨minv_setIm h.minv _ id, fun hw => (by cases hw), fun hw => (by cases hw)⟩
    · -- the wrapper answers by itself: never `Pending`, so the consumer is not parked
      unfold afterCheckOuter
      have hne := pollNext_noInner (u := .pending) hpi
      have hpc := h.wIdle hw0
      have hcore := h.minv.core
      exact ⟨⟨hcore.of_flags _ _ _ _ _, fun _ => ⟨fun hp => absurd (of_decide_eq_true hp) hne,
        fun hp => absurd (of_decide_eq_true hp) hne⟩, h.minv.inPoll, fun hp => nomatch hp.symm.trans hpc⟩,
        fun _ => hpc, fun hw => nomatch hw.symm.trans hw0⟩
  | pollBegin =>
    obtain ⟨_, m', hm, rfl⟩ := mistep_pollBegin_iff.mp hs
    exact ⟨minv_pollBegin h.minv hm, fun hw => (by cases hw), fun hw => (by cases hw)⟩
  | drainStep =>
    obtain ⟨hw0, m', hm, rfl⟩ := mistep_drainStep_iff.mp hs
    exact ⟨minv_drainStep hc h.minv hm, fun hw => (nomatch hw.symm.trans hw0), fun hw => nomatch hw.symm.trans hw0⟩
  | readyStep =>
    obtain ⟨_, m', hm, rfl⟩ := mistep_readyStep_iff.mp hs
    have hi := minv_readyStep h.minv hm
    obtain ⟨hpc, rfl⟩ := mstep_readyStep_iff.mp hm
    have hsd : x.m.s.streamDropped = false := h.minv.inPoll (by rw [hpc]; simp)
    exact ⟨hi, fun hw => (by cases hw), fun _ => ⟨rfl, (sReadyHalf_facts x.m.s).1.trans hsd, _, rfl, by simp⟩⟩
  | finish =>
    obtain ⟨hw0, r, hr, rfl⟩ := mistep_finish_iff.mp hs
    obtain ⟨hpc, hsd, r0, hr0, hlp⟩ := h.wReturned hw0
    obtain rfl : r0 = r := Option.some.inj (hr0.symm.trans hr)
    -- the wrapper answers `Pending` only if the inner stream did
    have key : decide ((pollNextPost x.m.s.im (underOf r0)).2 = .pending) = true → x.m.s.lastPending = true :=
      fun hp => hlp.mpr (underOf_pending (pollNextPost_pending (of_decide_eq_true hp)).1)
    exact ⟨minv_setIm h.minv _ key, fun _ => hpc, fun hw => (by cases hw)⟩
  | drop f =>
    obtain ⟨s', hd, rfl⟩ := mistep_drop_iff.mp hs
    have hf := sdrop_spec hd
    refine ⟨minv_drop h.minv (mstep_drop_iff.mpr ⟨s', hd, rfl⟩), h.wIdle, fun hw => ?_⟩
    obtain ⟨b1, b2, r, b3, b4⟩ := h.wReturned hw
    exact ⟨b1, hf.streamDropped.trans b2, r, b3, by rw [← b4]; show s'.lastPending = true ↔ _; rw [hf.lastPending]⟩
  | dropStream =>
    obtain ⟨hw0, hpc, hsd, rfl⟩ := mistep_dropStream_iff.mp hs
    exact ⟨minv_dropStream h.minv (mstep_dropStream_iff.mpr ⟨hpc, hsd, rfl⟩), h.wIdle,
      fun hw => nomatch hw.symm.trans hw0⟩
  | interrupt =>
    obtain rfl := mistep_interrupt_iff.mp hs
    exact ⟨minv_setIm h.minv _ id, h.wIdle, h.wReturned⟩

theorem miinv_reachable {c : Cfg} (hc : GoodCfg c) {x : MIState} (hr : MIReachable c x) : MIInv c x := by
  induction hr with
  | init => exact ⟨minv_init hc, fun _ => rfl, fun h => (by cases h)⟩
  | step a _ hs ih => exact miinv_step hc ih hs

/-- the real-time count runs ahead of `yAfter` only by the item of the one poll whose `check` came
    before the first signal and whose `readyStep` after it; until that `readyStep` it is not ahead -/
structure RTInv (x : MIState) : Prop where
  noSig : x.sigSeen = false → x.yAfterRT = 0
  le : x.yAfterRT ≤ x.yAfter + 1
  inFlight : x.pollSeen = false → x.w = .checked ∨ x.w = .inner → x.yAfterRT ≤ x.yAfter

/-- the arithmetic of a `readyStep` that yields `d ≤ 1` items: `rt`, `y` are the two counters, `sig` /
    `ps` say which of them counts this poll; a poll counted in real time only (`ps = false`) is the one
    in flight, before which the real-time count was not ahead -/
theorem rt_le_step {rt y d : Nat} {sig ps : Bool} (hle : rt ≤ y + 1) (hfl : ps = false → rt ≤ y) (hd : d ≤ 1) :
    rt + (if sig = true then d else 0) ≤ y + (if ps = true then d else 0) + 1 := by
  have he : (if sig = true then d else 0) ≤ d := by
    split
    · exact Nat.le_refl d
    · exact Nat.zero_le d
  cases ps
  · exact Nat.add_le_add (hfl rfl) (Nat.le_trans he hd)
  · exact Nat.le_trans (Nat.add_le_add hle he) (Nat.le_of_eq (Nat.add_right_comm y 1 d))

theorem rtinv_step {c : Cfg} {x x' : MIState} {a : MIAction} (h : RTInv x) (hs : mistep? c x a = some x') :
    RTInv x' := by
  obtain ⟨h1, h2, h3⟩ := h
  cases a with
  | check =>
    -- both outcomes set `pollSeen := sigSeen` and leave the counters alone; unfold first (see `afterCheck`)
    obtain ⟨_, _, ⟨_, rfl⟩ | ⟨_, rfl⟩⟩ := mistep_check_iff.mp hs
    · unfold afterCheck
      exact ⟨h1, h2, fun hp _ => (h1 hp : x.yAfterRT = 0) ▸ Nat.zero_le _⟩
    · unfold afterCheckOuter
      exact ⟨h1, h2, fun hp _ => (h1 hp : x.yAfterRT = 0) ▸ Nat.zero_le _⟩
  | pollBegin =>
    obtain ⟨hw, m', _, rfl⟩ := mistep_pollBegin_iff.mp hs
    exact ⟨h1, h2, fun hp _ => h3 hp (Or.inl hw)⟩
  | drainStep =>
    obtain ⟨_, m', _, rfl⟩ := mistep_drainStep_iff.mp hs
    exact ⟨h1, h2, h3⟩
  | readyStep =>
    obtain ⟨hw, m', hm, rfl⟩ := mistep_readyStep_iff.mp hs
    have hd : m'.s.yielded.length - x.m.s.yielded.length ≤ 1 := by
      obtain ⟨_, rfl⟩ := mstep_readyStep_iff.mp hm
      exact sReadyHalf_yield_le x.m.s
    refine ⟨fun hf => ?_, ?_, fun _ hw' => by rcases hw' with hw' | hw' <;> cases hw'⟩
    · show x.yAfterRT + _ = 0
      rw [show x.sigSeen = false from hf, h1 hf]; rfl
    · exact rt_le_step h2 (fun hps => h3 hps (Or.inr hw)) hd
  | finish =>
    obtain ⟨_, r, _, rfl⟩ := mistep_finish_iff.mp hs
    exact ⟨h1, h2, fun _ hw' => by rcases hw' with hw' | hw' <;> cases hw'⟩
  | drop f =>
    obtain ⟨s', _, rfl⟩ := mistep_drop_iff.mp hs
    exact ⟨h1, h2, h3⟩
  | dropStream =>
    obtain ⟨_, _, _, rfl⟩ := mistep_dropStream_iff.mp hs
    exact ⟨h1, h2, h3⟩
  | interrupt =>
    obtain rfl := mistep_interrupt_iff.mp hs
    exact ⟨fun hf => (by cases hf), h2, h3⟩

theorem rtinv_reachable {c : Cfg} {x : MIState} (hr : MIReachable c x) : RTInv x := by
  induction hr with
  | init => exact ⟨fun _ => rfl, Nat.zero_le _, fun _ _ => Nat.le_refl _⟩
  | step a _ hs ih => exact rtinv_step ih hs

end FG
