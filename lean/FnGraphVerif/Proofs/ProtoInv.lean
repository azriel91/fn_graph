/-
  Proofs/ProtoInv.lean — hypotheses on a run configuration (`GoodCfg`) and the safety
  invariant `Inv` of the run protocol.  `inv_reachable` (every reachable state satisfies
  `Inv`) is proved in `Proofs/ProtoSafety.lean`; the property theorems in `Theorems/` are
  static consequences of `Inv`.
-/
import FnGraphVerif.Proofs.Release
import FnGraphVerif.Proofs.Reach
import FnGraphVerif.Model.Settle
namespace FG

/-- What `build` guarantees about the scheduling graph and the initial counts of a run. -/
structure GoodCfg (c : Cfg) : Prop where
  wf : WF c.D
  simple : Simple c.D
  acyclic : Acyclic c.D
  countsLen : c.counts0.length = c.D.n
  counts : ∀ v, c.counts0[v]?.getD 0 = (parents c.D v).length
  /-- the preload (Topo order filtered by a zero count) lists every root exactly once -/
  preNodup : (preload c).Nodup
  preMem : ∀ v, v ∈ preload c ↔ (v < c.D.n ∧ parents c.D v = [])

structure Inv (c : Cfg) (s : PState) : Prop where
  -- release core
  cnt : ∀ v, s.counts[v]?.getD 0 = unreleased c.D s.released v
  cntLen : s.counts.length = c.n
  relNodup : (s.released ++ s.doneQ).Nodup
  doneEnded : ∀ x, x ∈ s.released ∨ x ∈ s.doneQ → x ∈ s.endedOk
  ready : ∀ v, (v ∈ s.readyQ ∨ v ∈ s.handedOut ∨ s.dropped = some v) → ∀ p ∈ parents c.D v, p ∈ s.released
  queueNodup : (s.readyQ ++ s.handedOut ++ s.dropped.toList).Nodup
  bound : ∀ v, (v ∈ s.readyQ ∨ v ∈ s.handedOut ∨ s.dropped = some v) → v < c.n
  -- bookkeeping of hand-outs
  inflHanded : ∀ f ∈ s.inflight, f ∈ s.handedOut
  inflNodup : s.inflight.Nodup
  endNodup : (s.endedOk ++ s.failed).Nodup
  inflNotEnded : ∀ f ∈ s.inflight, f ∉ s.endedOk ∧ f ∉ s.failed
  endedHanded : ∀ f, f ∈ s.endedOk ∨ f ∈ s.failed → f ∈ s.handedOut
  handedSplit : ∀ f ∈ s.handedOut, f ∈ s.inflight ∨ f ∈ s.endedOk ∨ f ∈ s.failed
  invHanded : ∀ f ∈ s.invoked, f ∈ s.handedOut
  invNodup : s.invoked.Nodup
  endedInvoked : ∀ f, f ∈ s.endedOk ∨ f ∈ s.failed → f ∈ s.invoked
  -- no `expect` / underflow / blocking send
  noPanic : s.panic = false
  -- counters
  qRem : s.qRemaining + s.released.length = c.n
  sRem : s.sRemaining + s.endedOk.length + (if c.errMode = .collect then s.failed.length else 0) = c.n
  -- failures
  errs : s.errors = (if c.errMode = .collect then s.failed else [])
  failedMode : c.errMode = .none → s.failed = []
  short : c.errMode = .shortCircuit → s.failed = s.shortErr.toList
  shortOnly : s.shortErr.isSome = true → c.errMode = .shortCircuit
  shortDone : s.shortErr.isSome = true → s.sDone = true
  -- limit
  limSeq : c.sequential = true → s.inflight.length ≤ 1
  limPar : c.sequential = false → ∀ l, c.limit = some (l + 1) → s.inflight.length ≤ l + 1
  -- end of run
  sDoneInfl : s.sDone = true → s.inflight = []
  retFrozen : ∀ r, s.result = some r → r = mkRet c s ∧ s.sDone = true ∧ s.qDone = true

end FG
