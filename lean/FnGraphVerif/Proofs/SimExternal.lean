/-
  Proofs/SimExternal.lean — the external actions against `Sim` and `SimC`: a completion respects both;
  `interrupt` respects both, and under `NonInterruptible`, where the signal is never looked at, it
  commutes with every core action and core run on the nose, so it keeps "same settled state".
-/
import FnGraphVerif.Proofs.SimC
namespace FG
variable {c : Cfg} {s t : PState}

theorem sim_finish {q r q' : PState} {f : Nat} {ok : Bool} (hs : Sim q r) (hvr : f ∈ r.invoked)
    (h : step? c q (.finish f ok) = some q') : ∃ r', step? c r (.finish f ok) = some r' ∧ Sim q' r' := by
  obtain ⟨X, Y, rfl, hq⟩ := sim_exists hs
  obtain ⟨⟨hi, _, _⟩, rfl⟩ := step_finish_iff.mp h
  refine ⟨_, step_finish_congr (t := { q with invoked := X, readyQ := Y }) h hi hvr, ?_⟩
  refine Sim.of_patch rfl rfl (fun hrx => ?_) rfl rfl rfl rfl
  have hrx' : (q.readyRxOpen && !(!ok && decide (c.errMode = .shortCircuit))) = true := hrx
  rw [Bool.and_eq_true] at hrx'
  exact (hq hrx'.1).symm

/-- `coreN` forgets nothing that `finish` reads -/
theorem coreN_finW {f : Nat} {ok : Bool} (u : PState) : coreN (finW c u f ok) = coreN (finW c (coreN u) f ok) := rfl

theorem simC_finish {q r q' : PState} {f : Nat} {ok : Bool} (hs : SimC q r) (hvr : f ∈ r.invoked)
    (h : step? c q (.finish f ok) = some q') : ∃ r', step? c r (.finish f ok) = some r' ∧ SimC q' r' := by
  cases hcl : closedB q with
  | false =>
    obtain ⟨r', hr', hsim⟩ := sim_finish (simC_open hs hcl) hvr h
    exact ⟨r', hr', hsim.toC⟩
  | true =>
    have hcore := simC_closed hs hcl
    obtain ⟨⟨hi, _, _⟩, rfl⟩ := step_finish_iff.mp h
    refine ⟨_, step_finish_congr h (hs.inflight ▸ hi) hvr, simC_of_core (closed_step hcl h) ?_⟩
    rw [coreN_finW q, coreN_finW r, hcore]

def intrSt (s : PState) : PState := { s with im := { s.im with sent := true } }

theorem step_interrupt_S (c : Cfg) (s : PState) : step? c s .interrupt = some (intrSt s) := rfl

theorem pollNext_non_sent (m : IM) (u : Under) :
    pollNext .non { m with sent := true } u =
      ({ (pollNext .non m u).1 with sent := true }, (pollNext .non m u).2) := by
  -- `NonInterruptible` never looks at the channel, and the part after the check never does
  obtain ⟨sent, recv, cnt, sig, hp, ipc, ian⟩ := m
  cases ian
  · rw [pollNext_live rfl, pollNext_live rfl, interruptCheck_non, interruptCheck_non]
    cases hp <;> cases sig <;> cases u <;> rfl
  · rw [pollNext_ian rfl, pollNext_ian rfl]

theorem spApply_intr (m : IM) (out : Out) :
    spApply c (intrSt s) { m with sent := true } out = (spApply c s m out).map intrSt := by
  cases out <;> simp only [spApply, Option.map, intrSt]
  · split <;> rfl
  · split
    · rfl
    · split <;> rfl

theorem step_intr_frame (hst : c.strat = .non) (a : CA) :
    step? c (intrSt s) a.act = (step? c s a.act).map intrSt := by
  cases a
  · simp only [CA.act, step_qr, intrSt]
    split
    · rfl
    · split <;> rfl
  · simp only [CA.act, step_qe, intrSt]
    split <;> rfl
  · simp only [CA.act, step_sp]
    have hg : spBlocked c (intrSt s) = spBlocked c s := rfl
    have hu : readyUnder (intrSt s) = readyUnder s := rfl
    have him : (intrSt s).im = { s.im with sent := true } := rfl
    rw [hg, hu, him, hst, pollNext_non_sent]
    split
    · rfl
    · exact spApply_intr _ _
  · simp only [CA.act, step_se, intrSt]
    split <;> rfl
  · simp only [CA.act, step_rt, intrSt]
    split <;> rfl

theorem crun_intr_frame (hst : c.strat = .non) (as : List CA) : ∀ {s q : PState},
    crun c s as = some q → crun c (intrSt s) as = some (intrSt q) := by
  induction as with
  | nil => intro s q h; cases h; rfl
  | cons a as ih =>
    intro s q h
    obtain ⟨s1, h1, h⟩ := crun_cons_iff.mp h
    exact crun_cons_iff.mpr ⟨intrSt s1, by rw [step_intr_frame hst a, h1]; rfl, ih h⟩

theorem sim_intr (h : Sim s t) : Sim (intrSt s) (intrSt t) := by
  have h' : norm s = norm t := h
  show norm (intrSt s) = norm (intrSt t)
  have e : ∀ u : PState, norm (intrSt u) = { norm u with im := { (norm u).im with sent := true } } := fun _ => rfl
  rw [e, e, h']

theorem simC_intr (h : SimC s t) : SimC (intrSt s) (intrSt t) := by
  have h' : normC s = normC t := h
  show normC (intrSt s) = normC (intrSt t)
  have e : ∀ u : PState, normC (intrSt u) = { normC u with im := { (normC u).im with sent := true } } := by
    intro u
    unfold normC
    have : closedB (intrSt u) = closedB u := rfl
    rw [this]
    split <;> rfl
  rw [e, e, h']

theorem settle_interrupt_non {c : Cfg} {s t : PState} (hc : GoodCfg c) (hst : c.strat = .non)
    (hrs : Reachable c s) (hrt : Reachable c t) (hj : SimC (settle c s) (settle c t)) :
    SimC (settle c (intrSt s)) (settle c (intrSt t)) := by
  obtain ⟨as, bs, u1, u2, hu1, hu2, hsim⟩ := JoinC.of_settle hc hrs hrt hj
  exact JoinC.simC_settle hc (Reachable.step .interrupt hrs rfl) (Reachable.step .interrupt hrt rfl)
    ⟨as, bs, intrSt u1, intrSt u2, crun_intr_frame hst as hu1, crun_intr_frame hst bs hu2, simC_intr hsim⟩

end FG
