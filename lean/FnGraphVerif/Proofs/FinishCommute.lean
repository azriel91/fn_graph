/-
  Proofs/FinishCommute.lean — the completion of a user future can be moved before the internal actions
  the executor performed first: `finish f ok` commutes with every core action and core run up to the
  settled state modulo `SimC`, and so preserves the coupling "same settled state" (`settle_finish`).
  Up to `Sim` in all cases but one: a poll that CLOSES the done channel (`Interrupted(None)`, or a
  swallowed `Interrupted(Some item)`) before / after a successful completion — the done id is reported
  to the queuer in one order only; both results are closed states and agree on everything `SimC`
  looks at once the queuer has drained the channel (`drain`).
-/
import FnGraphVerif.Proofs.SimExternal
namespace FG
variable {c : Cfg} {s s' s1 t : PState} {f : Nat} {ok : Bool}

/-- a core step, then `Sim`, keeps the settled state modulo `SimC` -/
theorem settle_of_core_sim (hc : GoodCfg c) (hr : Reachable c s) {a : CA} {u v : PState}
    (hv : Reachable c v) (hu : step? c s a.act = some u) (hs : Sim u v) : SimC (settle c s) (settle c v) :=
  (settle_step hc hr a.act_internal hu).symm.toC.trans (settle_simC hc (Reachable.step _ hr hu) hv hs.toC)

theorem finW_panic_of_full (hb : (ok && s.doneTxOpen) = true) (hfull : c.cap ≤ s.doneQ.length) :
    (finW c s f ok).panic = true := by
  show (s.panic || _ || (ok && s.doneTxOpen && decide (c.cap ≤ s.doneQ.length)) || _) = true
  rw [hb, decide_eq_true hfull]
  simp only [Bool.true_and, Bool.or_true, Bool.true_or]

theorem finish_qr_commute (hc : GoodCfg c) (hr : Reachable c s)
    (h1 : step? c s .queuerRecv = some s1) (h2 : step? c s (.finish f ok) = some s') :
    ∃ s1', step? c s1 (.finish f ok) = some s1' ∧ SimC (settle c s') (settle c s1') := by
  obtain ⟨hqd, hres, x, rest, hq, hs1⟩ := step_queuerRecv_iff.mp h1
  have hs1' : s1 = qrApply c s x rest := hs1
  subst hs1'
  obtain ⟨hg, rfl⟩ := step_finish_iff.mp h2
  have hf1 := step_finish_of (s := qrApply c s x rest) hg
  -- a completion that would overflow the done channel panics: unreachable
  have hroom : (ok && s.doneTxOpen) = true → ¬ c.cap ≤ s.doneQ.length := by
    intro hb hfull
    have := finW_panic_of_full (c := c) (f := f) hb hfull
    rw [(Reachable.step _ hr h2).noPanic hc] at this
    cases this
  have hu : step? c (finW c s f ok) .queuerRecv = some (qrApply c (finW c s f ok) x
      (if ok && s.doneTxOpen && !decide (c.cap ≤ s.doneQ.length) then rest ++ [f] else rest)) :=
    step_queuerRecv_iff.mpr ⟨hqd, hres, _, _, by
      show (if ok && s.doneTxOpen && !decide (c.cap ≤ s.doneQ.length) then s.doneQ ++ [f] else s.doneQ) = _
      rw [hq]; split <;> rfl, rfl⟩
  refine ⟨_, hf1, settle_of_core_sim hc (Reachable.step _ hr h2)
    (Reachable.step _ (Reachable.step _ hr h1) hf1) (a := .qr) hu ?_⟩
  have hnpu := (Reachable.step _ (Reachable.step _ hr h2) hu).noPanic hc
  have hnp1 := (Reachable.step _ (Reachable.step _ hr h1) hf1).noPanic hc
  refine Sim.of_patch rfl (relFold_fst_indep _ _ _ _ _ _ _ _ _ _) (fun hrx => ?_) ?_ rfl rfl (by rw [hnpu, hnp1])
  · -- the ready queue, while its receiver lives: then the completion was no short-circuiting error
    have hrx' : (s.readyRxOpen && !(!ok && decide (c.errMode = .shortCircuit))) = true := hrx
    have e : (finW c s f ok).readyRxOpen = s.readyRxOpen := by
      show (s.readyRxOpen && !(!ok && decide (c.errMode = .shortCircuit))) = _
      rw [hrx']; simp only [Bool.and_eq_true] at hrx'; exact hrx'.1.symm
    show (relFold (_ && (finW c s f ok).readyRxOpen) _ _ _).2.1 = (relFold _ _ _ _).2.1
    rw [e]
    exact relFold_snd_indep _ _ _ _ _ _ _
  · -- the done channel: pop the head, push `f`, in either order
    show (if ok && s.doneTxOpen && !decide (c.cap ≤ s.doneQ.length) then rest ++ [f] else rest) =
      (if ok && s.doneTxOpen && !decide (c.cap ≤ rest.length) then rest ++ [f] else rest)
    cases hb : (ok && s.doneTxOpen) with
    | false => rfl
    | true =>
      have h3 := hroom hb
      have h4 : ¬ c.cap ≤ rest.length := by rw [hq] at h3; simp only [List.length_cons] at h3; omega
      simp [h3, h4]

theorem finish_qe_commute (hc : GoodCfg c) (hr : Reachable c s)
    (h1 : step? c s .queuerEnd = some s1) (h2 : step? c s (.finish f ok) = some s') :
    ∃ s1', step? c s1 (.finish f ok) = some s1' ∧ SimC (settle c s') (settle c s1') := by
  obtain ⟨hqd, hdt, hdq, rfl⟩ := step_queuerEnd_iff.mp h1
  obtain ⟨hg, rfl⟩ := step_finish_iff.mp h2
  have hf1 := step_finish_of (c := c) (ok := ok) (s := { s with qDone := true, readyTxOpen := false }) hg
  refine ⟨_, hf1, settle_of_core_sim hc (Reachable.step _ hr h2) (Reachable.step _ (Reachable.step _ hr h1) hf1)
    (a := .qe) (step_queuerEnd_iff (s := finW c s f ok).mpr ⟨hqd, ?_, ?_, rfl⟩) (Sim.refl _)⟩
  · exact (finW_doneTx_closed hdt).1
  · exact (finW_doneTx_closed hdt).2.trans hdq

/-- in a closed state the queuer folds the done ids `D` one by one, and `coreN` sees only the channel shrink -/
theorem drain (hc : GoodCfg c) : ∀ (D E : List Nat) (w : PState), Reachable c w → closedB w = true →
    w.qDone = false → w.result = none → w.doneQ = D ++ E →
    ∃ w', crun c w (List.replicate D.length CA.qr) = some w' ∧ closedB w' = true ∧
      coreN w' = { coreN w with doneQ := E } := by
  intro D
  induction D with
  | nil =>
    intro E w _ hcl _ _ hq
    refine ⟨w, rfl, hcl, ?_⟩
    simp only [List.nil_append] at hq
    rw [← hq]
    rfl
  | cons x D ih =>
    intro E w hr hcl hqd hres hq
    have hstep : step? c w .queuerRecv = some (qrApply c w x (D ++ E)) :=
      step_queuerRecv_iff.mpr ⟨hqd, hres, x, D ++ E, by rw [hq]; rfl, rfl⟩
    have hr1 := Reachable.step _ hr hstep
    have hcl1 := closed_step hcl hstep
    obtain ⟨w', hrun, hcl', hcore⟩ := ih E (qrApply c w x (D ++ E)) hr1 hcl1 hqd hres rfl
    refine ⟨w', crun_cons_iff.mpr ⟨_, hstep, hrun⟩, hcl', ?_⟩
    have p0 := hr.noPanic hc
    have p1 := hr1.noPanic hc
    have e1 : coreN (qrApply c w x (D ++ E)) =
        { coreN w with doneQ := D ++ E, panic := (qrApply c w x (D ++ E)).panic } := rfl
    rw [hcore, e1, p1]
    -- `coreN` of the folded state differs from `coreN w` in `doneQ` and `panic` only, and both panics are `false`
    exact (congrArg (fun X : PState => ({ X with doneQ := E } : PState))
      (panic_false_eta { coreN w with doneQ := D ++ E } p0) :)

/-- two closed states that agree, apart from the contents of the done channel, on everything `SimC`
    looks at settle alike: the queuer drains both channels -/
theorem settle_of_core_doneQ (hc : GoodCfg c) {u A : PState} (hru : Reachable c u) (hrA : Reachable c A)
    (hclu : closedB u = true) (hclA : closedB A = true) (hqd : u.qDone = false) (hres : u.result = none)
    (hcore : ({ coreN u with doneQ := [] } : PState) = { coreN A with doneQ := [] }) :
    SimC (settle c u) (settle c A) := by
  have hqdA : A.qDone = false := by
    have := congrArg PState.qDone hcore
    rw [← hqd]; exact this.symm
  have hresA : A.result = none := by
    have := congrArg PState.result hcore
    rw [← hres]; exact this.symm
  obtain ⟨u', hu, hclu', hcu⟩ := drain hc u.doneQ [] u hru hclu hqd hres (by simp)
  obtain ⟨A', hA, _, hcA⟩ := drain hc A.doneQ [] A hrA hclA hqdA hresA (by simp)
  exact JoinC.simC_settle hc hru hrA ⟨_, _, u', A', hu, hA, simC_of_core hclu' (by rw [hcu, hcA, hcore])⟩

theorem finish_sp_commute (hc : GoodCfg c) (hapi : c.ApiOk) (hr : Reachable c s)
    (h1 : step? c s .schedPoll = some s1) (h2 : step? c s (.finish f ok) = some s') :
    ∃ s1', step? c s1 (.finish f ok) = some s1' ∧ SimC (settle c s') (settle c s1') := by
  obtain ⟨hg, rfl⟩ := step_finish_iff.mp h2
  have hinv := inv0_reachable hc hr
  have hl := linv_reachable hc hr
  have hr' := Reachable.step _ hr h2
  have hr1 := Reachable.step _ hr h1
  obtain ⟨hsd, hse, hul, _⟩ := step_schedPoll_iff.mp h1
  -- the short-circuiting `try_fold` is sequential: nothing is in flight when it polls
  have hshort : (!ok && decide (c.errMode = .shortCircuit)) = false := by
    cases hm : decide (c.errMode = .shortCircuit) with
    | false => simp
    | true =>
      exfalso
      have hseq := hapi (of_decide_eq_true hm)
      rw [(underLimit_seq_iff hseq).mp hul] at hg
      exact absurd hg.1 (by simp)
  -- the stream answers the same before and after the completion
  have hsp' : step? c (finW c s f ok) .schedPoll =
      spApply c (finW c s f ok) (pollNext c.strat s.im (readyUnder s)).1 (pollNext c.strat s.im (readyUnder s)).2 :=
    step_schedPoll_eq
      (by show (s.sDone || (!ok && decide (c.errMode = .shortCircuit))) = false; rw [hshort, Bool.or_false, hsd])
      hse (underLimit_of_length_le (t := finW c s f ok) List.length_erase_le hul)
  rw [step_schedPoll_eq hsd hse hul] at h1
  have ha := pollNext_answer c.strat s.im (readyUnder s)
  generalize pollNext c.strat s.im (readyUnder s) = P at *
  obtain ⟨m, out⟩ := P
  simp only at h1 hsp' ha
  -- a poll `u` that commutes with the completion up to `Sim`; `Sim` is owed only when neither side panics,
  -- and neither does: both are reachable (`noPanic`)
  have commuting : ∀ u : PState, step? c (finW c s f ok) .schedPoll = some u →
      f ∈ s1.inflight → f ∈ s1.invoked → (u.panic = false → (finW c s1 f ok).panic = false → Sim u (finW c s1 f ok)) →
      ∃ s1', step? c s1 (.finish f ok) = some s1' ∧ SimC (settle c (finW c s f ok)) (settle c s1') := by
    intro u hu hi1 hv1 hsim
    have hf1 := step_finish_congr (t := s1) h2 hi1 hv1
    exact ⟨_, hf1, settle_of_core_sim hc hr' (Reachable.step _ hr1 hf1) (a := .sp) hu
      (hsim ((Reachable.step _ hr' hu).noPanic hc) ((Reachable.step _ hr1 hf1).noPanic hc))⟩
  -- a poll that closes the done channel
  have closing : ∀ (R : List Nat) (Dp : Option Nat), m.ian = true →
      s1 = { s with im := m, readyQ := R, dropped := Dp, doneTxOpen := false } →
      step? c (finW c s f ok) .schedPoll =
        some { finW c s f ok with im := m, readyQ := R, dropped := Dp, doneTxOpen := false } →
      ∃ s1', step? c s1 (.finish f ok) = some s1' ∧ SimC (settle c (finW c s f ok)) (settle c s1') := by
    intro R Dp hian hs1 hu
    subst hs1
    have hf1 := step_finish_of (c := c) (ok := ok)
      (s := { s with im := m, readyQ := R, dropped := Dp, doneTxOpen := false }) hg
    refine ⟨_, hf1, ?_⟩
    have hru' := Reachable.step _ hr' hu
    have hrA := Reachable.step _ hr1 hf1
    have pu := hru'.noPanic hc
    have pA := hrA.noPanic hc
    refine (settle_step hc hr' (CA.act_internal .sp) hu).symm.toC.trans ?_
    cases hb : (ok && s.doneTxOpen) with
    | false =>
      -- the completion is not reported to the queuer in either order
      apply settle_simC hc hru' hrA
      apply Sim.toC
      refine Sim.of_patch rfl rfl (fun _ => rfl) ?_ ?_ rfl (by rw [pu, pA])
      · show (if ok && s.doneTxOpen && !decide (c.cap ≤ s.doneQ.length) then s.doneQ ++ [f] else s.doneQ) =
          (if ok && false && !decide (c.cap ≤ s.doneQ.length) then s.doneQ ++ [f] else s.doneQ)
        rw [hb]; simp
      · show false = (ok && (false && (s.sRemaining - 1 != 0) && s.closeAfter != some f))
        simp
    | true =>
      -- reported before the poll, not after it: the queuer drains the channel
      simp only [Bool.and_eq_true] at hb
      obtain ⟨rfl, hdt⟩ := hb
      have hqd : s.qDone = false := (hl.txOpen hdt).2.2.1
      have hres : s.result = none := by
        cases hres : s.result with
        | none => rfl
        | some r =>
          have := (hinv.ret0 r hres).2.1
          rw [hqd] at this; exact absurd this (by simp)
      apply settle_of_core_doneQ hc hru' hrA (closedB_iff.mpr ⟨hian, rfl⟩) (closedB_iff.mpr ⟨hian, rfl⟩) hqd hres
      have e : ({ coreN { finW c s f true with im := m, readyQ := R, dropped := Dp, doneTxOpen := false } with
              doneQ := [] } : PState) =
            { ({ coreN (finW c { s with im := m, readyQ := R, dropped := Dp, doneTxOpen := false } f true) with
                doneQ := [] } : PState) with
              panic := ({ finW c s f true with im := m, readyQ := R, dropped := Dp, doneTxOpen := false } : PState).panic } := rfl
      rw [e, pu]
      exact panic_false_eta _ pA
  cases out with
  | pending | endd =>
    simp only [spApply, Option.some.injEq] at h1
    subst h1
    exact commuting _ hsp' hg.1 hg.2.1 (fun _ _ => Sim.refl _)
  | intNone =>
    simp only [spApply, Option.some.injEq] at h1
    exact closing s.readyQ s.dropped ha.2 h1.symm hsp'
  | noInt =>
    simp only [spApply] at h1 hsp'
    have hq' : (finW c s f ok).readyQ = s.readyQ := rfl
    rw [hq'] at hsp'
    split at h1
    · exact absurd h1 (by simp)
    · rename_i g rest hq
      simp only [Option.some.injEq] at h1
      subst h1
      simp only [hq] at hsp'
      refine commuting _ hsp' (List.mem_append_left _ hg.1) hg.2.1 ?_
      intro pu pA
      exact Sim.of_patch rfl rfl (fun _ => rfl) rfl rfl (List.erase_append_left _ hg.1).symm (by rw [pu, pA])
  | intSome =>
    simp only [spApply] at h1 hsp'
    have hq' : (finW c s f ok).readyQ = s.readyQ := rfl
    rw [hq'] at hsp'
    split at h1
    · exact absurd h1 (by simp)
    · rename_i g rest hq
      simp only [hq] at hsp'
      cases hincl : c.incl with
      | true =>
        simp only [hincl, if_true, Option.some.injEq] at h1 hsp'
        subst h1
        -- `g` is new, and no item was designated to close the channel before this poll
        have hgf : g ≠ f := fun e => (hinv.head_not_handed hq).2.1 (e ▸ hinv.inflHanded f hg.1)
        have hca : s.closeAfter = none := by
          cases hca : s.closeAfter with
          | none => rfl
          | some y =>
            have := hl.closeIan (by rw [hca]; rfl)
            rw [ha.1] at this
            exact absurd this (by simp)
        refine commuting _ hsp' (List.mem_append_left _ hg.1) hg.2.1 ?_
        intro pu pA
        refine Sim.of_patch rfl rfl (fun _ => rfl) rfl ?_ (List.erase_append_left _ hg.1).symm (by rw [pu, pA])
        · show (ok && (s.doneTxOpen && (s.sRemaining - 1 != 0) && s.closeAfter != some f)) =
            (ok && (s.doneTxOpen && (s.sRemaining - 1 != 0) && (some g != some f)))
          have hne1 : (some g != some f) = true := by simp [hgf]
          have hne2 : (s.closeAfter != some f) = true := by rw [hca]; rfl
          rw [hne1, hne2]
      | false =>
        simp only [hincl, Bool.false_eq_true, if_false, Option.some.injEq] at h1 hsp'
        exact closing rest (some g) ha.2.1 h1.symm hsp'

theorem finish_core_commute (hc : GoodCfg c) (hapi : c.ApiOk) (hr : Reachable c s) (a : CA)
    (h1 : step? c s a.act = some s1) (h2 : step? c s (.finish f ok) = some s') :
    ∃ s1', step? c s1 (.finish f ok) = some s1' ∧ SimC (settle c s') (settle c s1') := by
  have hi : f ∈ s.inflight := (step_finish_iff.mp h2).1.1
  cases a with
  | qr => exact finish_qr_commute hc hr h1 h2
  | qe => exact finish_qe_commute hc hr h1 h2
  | sp => exact finish_sp_commute hc hapi hr h1 h2
  | se =>
    obtain ⟨_, hinf, _⟩ := step_schedEnd_iff.mp h1
    rw [hinf] at hi; exact absurd hi (by simp)
  | rt =>
    obtain ⟨hsd, _⟩ := step_ret_iff.mp h1
    rw [(inv_reachable hc hapi hr).sDoneInfl hsd] at hi; exact absurd hi (by simp)

theorem finish_crun_commute (hc : GoodCfg c) (hapi : c.ApiOk) (cs : List CA) :
    ∀ {s q s' : PState}, Reachable c s → crun c s cs = some q →
      step? c s (.finish f ok) = some s' →
      ∃ q', step? c q (.finish f ok) = some q' ∧ SimC (settle c s') (settle c q') := by
  induction cs with
  | nil => intro s q s' _ hrun hfin; cases hrun; exact ⟨s', hfin, SimC.refl _⟩
  | cons a cs ih =>
    intro s q s' hr hrun hfin
    obtain ⟨s1, h1, hrun⟩ := crun_cons_iff.mp hrun
    obtain ⟨s1', hf1, hj1⟩ := finish_core_commute hc hapi hr a h1 hfin
    obtain ⟨q', hq', hj⟩ := ih (Reachable.step _ hr h1) hrun hf1
    exact ⟨q', hq', hj1.trans hj⟩

/-- **`finish` preserves the coupling**: states that settle alike still do after the same completion -/
theorem settle_finish (hc : GoodCfg c) (hapi : c.ApiOk) {s' t' : PState}
    (hrs : Reachable c s) (hrt : Reachable c t) (hj : SimC (settle c s) (settle c t))
    (h1 : step? c s (.finish f ok) = some s') (h2 : step? c t (.finish f ok) = some t') :
    SimC (settle c s') (settle c t') := by
  obtain ⟨as, bs, u1, u2, hu1, hu2, hsim⟩ := JoinC.of_settle hc hrs hrt hj
  obtain ⟨u1', hf1, hj1⟩ := finish_crun_commute hc hapi as hrs hu1 h1
  obtain ⟨u2', hf2, hj2⟩ := finish_crun_commute hc hapi bs hrt hu2 h2
  have hv2 : f ∈ u2.invoked :=
    (run_prefix (g := PState.invoked) step_invoked_prefix hu2).subset (step_finish_iff.mp h2).1.2.1
  obtain ⟨r', hr', hs'⟩ := simC_finish hsim hv2 hf1
  cases hf2.symm.trans hr'
  exact hj1.trans ((settle_simC hc (Reachable.step _ (hrs.of_run hu1) hf1)
    (Reachable.step _ (hrt.of_run hu2) hf2) hs').trans hj2.symm)

end FG
