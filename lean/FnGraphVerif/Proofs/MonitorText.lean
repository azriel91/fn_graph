/-
  Proofs/MonitorText.lean — the texts the monitor compares determine what they render: `natsText`
  (comma separated decimal numbers) and the return texts are injective, and the fixed texts
  ("none-enabled", "not-returned", …) differ from every number / every return text.
  Idea: a reader that is a left inverse of the rendering (`readNats`, built on `List.splitOn`)
  gives injectivity.  The same for the texts of poll observations (`readPoll`), so an accepted `S-poll`
  comparison means the model's poll answer is the observed one.
-/
import FnGraphVerif.Proofs.TraceDefs
import Std.Data.String.ToNat
namespace FG

/-- Two texts `w ++ s ++ A = v ++ s ++ B` whose heads `w`, `v` lack the first character `sep` of the
literal `s` agree part by part (`List.splitOn` at `sep`).  `hs` holds by `rfl`, which reads a literal
as `String.ofList` of its characters; `decide` would decode its bytes. -/
theorem append_lit_inj {s : String} {sep : Char} {t w v A B : List Char} (hs : s = String.ofList (sep :: t))
    (hw : sep ∉ w) (hv : sep ∉ v) (h : w ++ (s.toList ++ A) = v ++ (s.toList ++ B)) : w = v ∧ A = B := by
  rw [hs, String.toList_ofList, List.cons_append, List.cons_append] at h
  have h1 := congrArg (·.splitOn sep) h
  rw [List.splitOn_append_cons_self_of_not_mem hw, List.splitOn_append_cons_self_of_not_mem hv] at h1
  have hwv := (List.cons.inj h1).1
  rw [hwv] at h
  exact ⟨hwv, List.append_cancel_left (List.cons.inj (List.append_cancel_left h)).2⟩

theorem toString_nat_toList (n : Nat) : (toString n).toList = Nat.toDigits 10 n := Nat.toList_repr

theorem toString_nat_digit {n : Nat} {ch : Char} (h : ch ∈ (toString n).toList) : ch.isDigit = true :=
  Nat.isDigit_of_mem_toDigits (by omega) (by omega) (toString_nat_toList n ▸ h)

theorem ofDigitChars_toString (n : Nat) : Nat.ofDigitChars 10 (toString n).toList 0 = n := by
  rw [toString_nat_toList, Nat.ofDigitChars_ten_toDigits]

theorem natsText_toList (l : List Nat) :
    (natsText l).toList = [','].intercalate (l.map (fun n => (toString n).toList)) := by
  unfold natsText
  rw [String.toList_intercalate, List.map_map]
  rfl

def readNats (l : List Char) : List Nat :=
  if l = [] then [] else (l.splitOn ',').map (Nat.ofDigitChars 10 · 0)

theorem readNats_natsText (l : List Nat) : readNats (natsText l).toList = l := by
  rw [natsText_toList]
  cases l with
  | nil => rfl
  | cons n r =>
    have hs := List.splitOn_intercalate (ls := (n :: r).map fun n => (toString n).toList) ','
      (fun w hw hc => by
        obtain ⟨m, _, rfl⟩ := List.mem_map.mp hw
        exact absurd (toString_nat_digit hc) (by decide)) (List.cons_ne_nil _ _)
    -- the text is not empty: `splitOn` of the empty text is `[[]]`, and no number renders as `[]`
    have hne : [','].intercalate ((n :: r).map fun n => (toString n).toList) ≠ [] := by
      intro h0
      rw [h0] at hs
      exact Nat.toDigits_ne_nil ((toString_nat_toList n).symm.trans (List.cons.inj hs).1.symm)
    rw [readNats, if_neg hne, hs, List.map_map]
    simp only [Function.comp_def, ofDigitChars_toString, List.map_id']

theorem natsText_inj {a b : List Nat} (h : natsText a = natsText b) : a = b := by
  rw [← readNats_natsText a, h, readNats_natsText]

theorem natsText_inj_iff {a b : List Nat} : natsText a = natsText b ↔ a = b :=
  ⟨natsText_inj, fun h => h ▸ rfl⟩

theorem natsText_singleton (f : Nat) : natsText [f] = toString f := by
  simp [natsText]

theorem natsText_eq_toString {l : List Nat} {f : Nat} (h : natsText l = toString f) : l = [f] :=
  natsText_inj (h.trans (natsText_singleton f).symm)

theorem natsText_chars {l : List Nat} {ch : Char} (h : ch ∈ (natsText l).toList) :
    ch.isDigit = true ∨ ch = ',' := by
  rw [natsText_toList] at h
  induction l with
  | nil => simp at h
  | cons n l ih =>
    cases l with
    | nil =>
      simp only [List.map_cons, List.map_nil, List.intercalate_singleton] at h
      exact Or.inl (toString_nat_digit h)
    | cons m l =>
      simp only [List.map_cons, List.intercalate_cons_cons, List.append_assoc, List.mem_append,
        List.mem_singleton] at h
      rcases h with h | h | h
      · exact Or.inl (toString_nat_digit h)
      · exact Or.inr h
      · exact ih (by simpa using h)

theorem natsText_no_space (l : List Nat) : ' ' ∉ (natsText l).toList :=
  fun h => (natsText_chars h).elim (fun h => absurd h (by decide)) (fun h => absurd h (by decide))

theorem toString_nat_ne_noneEnabled (f : Nat) : "none-enabled" ≠ toString f := by
  intro h
  have hn : "none-enabled".toList = 'n' :: _ := String.toList_ofList
  have h1 : 'n' ∈ (toString f).toList := by rw [← h, hn]; exact List.mem_cons_self
  exact absurd (toString_nat_digit h1) (by decide)

theorem retOutcome_text (fnd : Bool) (p np e : List Nat) (fl : String) :
    (Ev.retOutcome fnd p np e fl).text = "ret state=" ++ (if fnd then "F" else "I") ++ " processed=" ++ natsText p
      ++ " notprocessed=" ++ natsText np ++ " errs=" ++ natsText e ++ " flow=" ++ fl := rfl

theorem retErr_text (f : Nat) : (Ev.retErr f).text = "ret err " ++ toString f := rfl

theorem retOutcome_text_toList (fnd : Bool) (p np e : List Nat) (fl : String) :
    (Ev.retOutcome fnd p np e fl).text.toList =
      "ret state=".toList ++ ((if fnd then 'F' else 'I') :: (" processed=".toList ++ ((natsText p).toList ++
        (" notprocessed=".toList ++ ((natsText np).toList ++ (" errs=".toList ++ ((natsText e).toList ++
        (" flow=".toList ++ fl.toList)))))))) := by
  have flag : (if fnd then "F" else "I").toList = [if fnd then 'F' else 'I'] := by
    cases fnd <;> exact String.toList_ofList
  rw [retOutcome_text]
  simp only [String.toList_append, List.append_assoc, flag, List.cons_append, List.nil_append]

theorem retOutcome_text_inj {fnd fnd' : Bool} {p p' np np' e e' : List Nat} {fl fl' : String}
    (h : (Ev.retOutcome fnd p np e fl).text = (Ev.retOutcome fnd' p' np' e' fl').text) :
    fnd = fnd' ∧ p = p' ∧ np = np' ∧ e = e' ∧ fl = fl' := by
  have h1 := congrArg String.toList h
  rw [retOutcome_text_toList, retOutcome_text_toList] at h1
  obtain ⟨hf, h2⟩ := List.cons.inj (List.append_cancel_left h1)
  obtain ⟨hp, h3⟩ := append_lit_inj rfl (natsText_no_space p) (natsText_no_space p')
    (List.append_cancel_left h2)
  obtain ⟨hnp, h4⟩ := append_lit_inj rfl (natsText_no_space np) (natsText_no_space np') h3
  obtain ⟨he, h5⟩ := append_lit_inj rfl (natsText_no_space e) (natsText_no_space e') h4
  refine ⟨?_, natsText_inj (String.toList_inj.mp hp), natsText_inj (String.toList_inj.mp hnp),
    natsText_inj (String.toList_inj.mp he), String.toList_inj.mp h5⟩
  cases fnd <;> cases fnd' <;> first | rfl | exact absurd hf (by decide)

theorem retErr_text_inj {f g : Nat} (h : (Ev.retErr f).text = (Ev.retErr g).text) : f = g :=
  Nat.repr_injective ((String.append_right_inj "ret err ").mp h)

/-- the fifth character tells the three kinds of return texts apart -/
def retKind (s : String) : Option Char := s.toList[4]?

theorem retKind_ofList (l : List Char) : retKind (String.ofList l) = l[4]? := by
  rw [retKind, String.toList_ofList]

theorem retKind_append {s t : String} {c : Char} (h : retKind s = some c) : retKind (s ++ t) = some c := by
  obtain ⟨hl, _⟩ := List.getElem?_eq_some_iff.mp h
  rw [retKind, String.toList_append, List.getElem?_append_left hl]
  exact h

theorem retKind_notReturned : retKind "not-returned" = some 'r' := retKind_ofList _

theorem retKind_retErr (f : Nat) : retKind (Ev.retErr f).text = some 'e' :=
  retKind_append (retKind_ofList _)

theorem retKind_retOutcome (fnd : Bool) (p np e : List Nat) (fl : String) :
    retKind (Ev.retOutcome fnd p np e fl).text = some 's' := by
  simp only [retOutcome_text, String.append_assoc]
  exact retKind_append (retKind_ofList _)

theorem ne_of_retKind {s t : String} {a b : Char} (hs : retKind s = some a) (ht : retKind t = some b)
    (hab : a ≠ b) : s ≠ t :=
  fun h => hab (Option.some.inj (hs.symm.trans ((congrArg retKind h).trans ht)))

theorem retErr_text_ne_retOutcome (f : Nat) (fnd : Bool) (p np e : List Nat) (fl : String) :
    (Ev.retErr f).text ≠ (Ev.retOutcome fnd p np e fl).text :=
  ne_of_retKind (retKind_retErr f) (retKind_retOutcome ..) (by decide)

theorem notReturned_ne_retOutcome (fnd : Bool) (p np e : List Nat) (fl : String) :
    "not-returned" ≠ (Ev.retOutcome fnd p np e fl).text :=
  ne_of_retKind retKind_notReturned (retKind_retOutcome ..) (by decide)

theorem notReturned_ne_retErr (f : Nat) : "not-returned" ≠ (Ev.retErr f).text :=
  ne_of_retKind retKind_notReturned (retKind_retErr f) (by decide)

def flowText (r : Ret) (control : Bool) : String :=
  if control then (if r.isBreak then "break" else "cont") else "na"

theorem retText_err (f : Nat) (control : Bool) : retText (.err f) control = (Ev.retErr f).text := rfl

theorem retText_outcome (fnd : Bool) (p np errs : List Nat) (control : Bool) :
    retText (.outcome fnd p np errs) control =
      (Ev.retOutcome fnd p np (errs.mergeSort (· ≤ ·)) (flowText (.outcome fnd p np errs) control)).text := rfl

theorem toString_eq_false_iff {b : Bool} : toString b = "false" ↔ b = false := by
  cases b
  · exact ⟨fun _ => rfl, fun _ => rfl⟩
  · exact ⟨fun h => absurd h (by decide), fun h => nomatch h⟩

theorem wokenText_inj {a b : Bool}
    (h : s!"woken={if a then 1 else 0}" = s!"woken={if b then 1 else 0}") : a = b := by
  cases a <;> cases b <;> first | rfl | (exfalso; revert h; decide)

/-- The first two characters tell the constructors apart; the number of `some`/`isome` and the
flag of `pending` (rendered as the number 1 or 0) stand at fixed offsets. -/
def readPoll (l : List Char) : Option PollObs :=
  let k := l.take 2
  let num (i : Nat) := Nat.ofDigitChars 10 (l.drop i) 0
  if k = ['s', 'o'] then some (.some (num 5))
  else if k = ['i', 's'] then some (.isome (num 6))
  else if k = ['i', 'n'] then some .inone
  else if k = ['n', 'o'] then some .none
  else if k = ['p', 'e'] then some (.pending (num 14 != 0))
  else if k = ['p', 'a'] then some .panic
  else none

theorem toList_lit_append {s t : String} {l : List Char} (hs : s = String.ofList l) :
    (s ++ t).toList = l ++ t.toList := by
  rw [hs, String.toList_append, String.toList_ofList]

theorem readPoll_text (r : PollObs) : readPoll r.text.toList = some r := by
  cases r with
  | some f =>
    exact (congrArg readPoll (toList_lit_append (s := "some ") rfl)).trans
      (congrArg (fun n => some (PollObs.some n)) (ofDigitChars_toString f))
  | isome f =>
    exact (congrArg readPoll (toList_lit_append (s := "isome ") rfl)).trans
      (congrArg (fun n => some (PollObs.isome n)) (ofDigitChars_toString f))
  | pending w =>
    refine (congrArg readPoll (toList_lit_append (s := "pending woken=") rfl)).trans
      ((congrArg (fun n => some (PollObs.pending (n != 0))) (ofDigitChars_toString _)).trans ?_)
    cases w <;> rfl
  -- the constant texts: read as their characters, as in `append_lit_inj`
  | _ => exact (congrArg readPoll String.toList_ofList).trans rfl

theorem PollObs.text_injective {a b : PollObs} (h : a.text = b.text) : a = b := by
  have ha := readPoll_text a
  rw [h, readPoll_text b] at ha
  exact (Option.some.inj ha).symm

theorem PollObs.text_ne_questionMark (r : PollObs) : "?" ≠ r.text := by
  intro h
  have hr := readPoll_text r
  have hq : readPoll "?".toList = Option.none := by decide
  rw [← h, hq] at hr
  cases hr

/-- an accepted `S-poll` comparison: the model's answer is the observed one -/
theorem pollObsOf_of_text {out : Out} {fo : Option Nat} {w : Bool} {r : PollObs}
    (h : pollText out fo w = r.text) : pollObsOf out fo w = r := by
  cases out <;> cases fo <;> simp only [pollText, pollObsOf] at h ⊢ <;>
    first
      | exact PollObs.text_injective h
      | exact absurd h (PollObs.text_ne_questionMark r)

end FG
