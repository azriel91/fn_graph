/-
  Proofs/ObsSchedule.lean — a checker that turns a concrete schedule (model actions and `q`
  observations) into an `ObsRun`; `limit := some 0` has the steps, quiescent points and observed runs
  of `limit := none`; the diamond `0→1, 0→2, 1→3, 2→3` as a monitor context.  For the
  counterexamples and non-vacuity examples of `Theorems/TracePreds.lean` and later files.
-/
import FnGraphVerif.Proofs.TraceDefs
import FnGraphVerif.Proofs.ExampleCfgs
import FnGraphVerif.Proofs.SettleStep
namespace FG

inductive SchedItem
  | act (a : Action)
  | q

/-- the events of a concrete schedule and its final state; `none` if some action is not enabled,
    an `interrupt` is not quiet, or a `q` is placed at a state that is not quiescent / has returned -/
def obsEvents (x : MonCtx) : PState → List SchedItem → Option (List Ev × PState)
  | s, [] => some ([], s)
  | s, .act a :: l =>
    match step? x.c s a with
    | none => none
    | some s1 =>
      if a = .interrupt ∧ ¬ (∀ f ∈ s.inflight, f ∈ s.invoked) then none else
      match obsEvents x s1 l with
      | none => none
      | some r => some (stepEvents x.c x.control s a s1 ++ r.1, r.2)
  | s, .q :: l =>
    if Quiescent x.c s ∧ s.result = none then
      match obsEvents x s l with
      | none => none
      | some r => some (.q :: r.1, r.2)
    else none

theorem obsEvents_obsRun (x : MonCtx) : ∀ (l : List SchedItem) (s : PState) (r : List Ev × PState),
    obsEvents x s l = some r → ObsRun x s r.1 r.2 := by
  intro l
  induction l with
  | nil =>
    intro s r h
    simp only [obsEvents, Option.some.injEq] at h
    subst h
    exact .nil s
  | cons o l ih =>
    intro s r h
    cases o with
    | act a =>
      simp only [obsEvents] at h
      cases hs : step? x.c s a with
      | none => rw [hs] at h; cases h
      | some s1 =>
        rw [hs] at h
        simp only at h
        split at h
        · cases h
        · rename_i hq
          cases hr : obsEvents x s1 l with
          | none => rw [hr] at h; cases h
          | some r1 =>
            rw [hr] at h
            simp only [Option.some.injEq] at h
            subst h
            refine .step a hs ?_ (ih s1 r1 hr)
            intro ha
            by_contra hn
            exact hq ⟨ha, hn⟩
    | q =>
      simp only [obsEvents] at h
      split at h
      · rename_i hq
        cases hr : obsEvents x s l with
        | none => rw [hr] at h; cases h
        | some r1 =>
          rw [hr] at h
          simp only [Option.some.injEq] at h
          subst h
          exact .q hq.1 hq.2 (ih s r1 hr)
      · cases h

theorem obsRun_of_obsEvents {x : MonCtx} {l : List SchedItem} {s : PState} {evs : List Ev}
    (h : (obsEvents x s l).map (·.1) = some evs) : ∃ s', ObsRun x s evs s' := by
  cases hr : obsEvents x s l with
  | none => rw [hr] at h; cases h
  | some r =>
    rw [hr] at h
    simp only [Option.map_some, Option.some.injEq] at h
    subst h
    exact ⟨r.2, obsEvents_obsRun x l s r hr⟩

/-! ### `limit := some 0` is the unlimited protocol ("0 and None mean unbounded",
  `for_each_concurrent`): `limit` enters `step?` through `underLimit` only -/

theorem ObsRun.limit_zero {x : MonCtx} (hl : x.c.limit = none) {s s' : PState} {evs : List Ev}
    (h : ObsRun x s evs s') : ObsRun { x with c := { x.c with limit := some 0 } } s evs s' := by
  induction h with
  | nil s => exact .nil s
  | step a h hq _ ih => exact .step a ((step?_limit_zero hl _ _).trans h) hq ih
  | q hq hres _ ih => exact .q ((settle1_limit_zero hl _).trans hq) hres ih

/-- the diamond, 0 and 3 writing a resource that 1 and 2 read, as a
    monitor context, for any configuration on that graph -/
def xDiamond (c : Cfg) : MonCtx :=
  { c := c, decls := exDecls_F, userD := exDag_F, rev := false, control := true,
    interruptible := false, coop := false }

theorem xDiamond_good (c : Cfg) (hD : c.D = exDag_F) (h0 : c.counts0 = [0, 1, 1, 2])
    (hapi : c.errMode = .shortCircuit → c.sequential = true) : GoodCtx (xDiamond c) where
  good := exCfg_good_F c hD h0
  api := hapi
  userN := by show exDag_F.n = c.D.n; rw [hD]
  userSub := by
    intro u v h
    show IsEdge c.D u v
    rw [hD]
    exact h
  userWF := (exCfg_good_F exCfg_F rfl rfl).wf
  ordered := by
    intro u v hu hv hne hcf
    have hn : c.n = exCfg_F.n := by unfold Cfg.n; rw [hD]; rfl
    show ReachP c.D u v ∨ ReachP c.D v u
    rw [hD]
    exact exDecls_ordered_F u v (hn ▸ hu) (hn ▸ hv) hne hcf

theorem xDiamond_exCfg_good : GoodCtx (xDiamond exCfg_F) :=
  xDiamond_good exCfg_F rfl rfl (by intro h; cases h)

end FG
