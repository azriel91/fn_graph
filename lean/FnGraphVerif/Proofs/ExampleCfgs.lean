/-
  Proofs/ExampleCfgs.lean — how the concrete configurations of the non-vacuity examples get their
  `GoodCfg`: a Boolean check that implies it (edges index-increasing), evaluated once per graph;
  `GoodCfg` only reads the graph and the initial counts, so every variant of a configuration (other
  limit, strategy, error mode …) inherits it by `GoodCfg.of_eq`.
-/
import FnGraphVerif.Proofs.ProtoInv
namespace FG

def Cfg.check (c : Cfg) : Bool :=
  decide (∀ e ∈ c.D.edges, e.src < e.tgt ∧ e.tgt < c.D.n) &&
  decide (c.counts0.length = c.D.n) && decide (preload c).Nodup &&
  decide (∀ v ∈ preload c, v < c.D.n) &&
  decide (∀ v, v < c.D.n → ((children c.D v).Nodup ∧ (parents c.D v).Nodup ∧
    c.counts0[v]?.getD 0 = (parents c.D v).length ∧ (v ∈ preload c ↔ parents c.D v = [])))

theorem goodCfg_of_check {c : Cfg} (h : c.check = true) : GoodCfg c := by
  simp only [Cfg.check, Bool.and_eq_true, decide_eq_true_eq] at h
  obtain ⟨⟨⟨⟨h1, h2⟩, h3⟩, h4⟩, h5⟩ := h
  have hwf : WF c.D := fun e he => ⟨Nat.lt_trans (h1 e he).1 (h1 e he).2, (h1 e he).2⟩
  refine
    { wf := hwf, simple := ?_, acyclic := Fwd.acyclic (f := id) (by rintro u v ⟨e, he, rfl, rfl⟩; exact (h1 e he).1),
      countsLen := h2, counts := ?_, preNodup := h3, preMem := ?_ }
  · intro u
    by_cases hu : u < c.D.n
    · exact ⟨(h5 u hu).1, (h5 u hu).2.1⟩
    · rw [children_eq_nil_of_ge hwf (Nat.le_of_not_lt hu), parents_eq_nil_of_ge hwf (Nat.le_of_not_lt hu)]
      exact ⟨List.nodup_nil, List.nodup_nil⟩
  · intro v
    by_cases hv : v < c.D.n
    · exact (h5 v hv).2.2.1
    · have hv := Nat.le_of_not_lt hv
      rw [parents_eq_nil_of_ge hwf hv]
      have : c.counts0[v]? = none := List.getElem?_eq_none (by omega)
      simp [this]
  · intro v
    constructor
    · intro hm
      exact ⟨h4 v hm, ((h5 v (h4 v hm)).2.2.2).mp hm⟩
    · rintro ⟨hv, hp⟩
      exact ((h5 v hv).2.2.2).mpr hp

theorem GoodCfg.of_eq {c c' : Cfg} (h : GoodCfg c') (hD : c.D = c'.D) (h0 : c.counts0 = c'.counts0) :
    GoodCfg c := by
  have hp : preload c = preload c' := by unfold preload; rw [hD, h0]
  exact ⟨hD ▸ h.wf, hD ▸ h.simple, hD ▸ h.acyclic, hD ▸ h0 ▸ h.countsLen, hD ▸ h0 ▸ h.counts,
    hp ▸ h.preNodup, hp ▸ hD ▸ h.preMem⟩

/-- diamond 0→1, 0→2, 1→3, 2→3 -/
def exDag_F : Dag := ⟨4, [⟨0, 1, .logic⟩, ⟨0, 2, .logic⟩, ⟨1, 3, .logic⟩, ⟨2, 3, .data⟩]⟩
def exCfg_F : Cfg := { D := exDag_F, counts0 := [0, 1, 1, 2] }

theorem exCfg_good_F (c : Cfg) (hD : c.D = exDag_F) (h0 : c.counts0 = [0, 1, 1, 2]) : GoodCfg c :=
  (goodCfg_of_check (c := exCfg_F) (by decide)).of_eq hD h0

theorem exGood_F : GoodCfg exCfg_F := exCfg_good_F _ rfl rfl
def exCollect_F : Cfg := { exCfg_F with errMode := .collect }
theorem exCollect_good_F : GoodCfg exCollect_F := exCfg_good_F _ rfl rfl
def exLim1_F : Cfg := { exCfg_F with limit := some 1 }
theorem exLim1_good_F : GoodCfg exLim1_F := exCfg_good_F _ rfl rfl
def exShort_F : Cfg := { exCfg_F with errMode := .shortCircuit, sequential := true }
theorem exShort_good_F : GoodCfg exShort_F := exCfg_good_F _ rfl rfl

theorem ex_edge01 : IsEdge exDag_F 0 1 := ⟨⟨0, 1, .logic⟩, by simp [exDag_F], rfl, rfl⟩
theorem ex_edge02 : IsEdge exDag_F 0 2 := ⟨⟨0, 2, .logic⟩, by simp [exDag_F], rfl, rfl⟩
theorem ex_edge13 : IsEdge exDag_F 1 3 := ⟨⟨1, 3, .logic⟩, by simp [exDag_F], rfl, rfl⟩
theorem ex_edge23 : IsEdge exDag_F 2 3 := ⟨⟨2, 3, .data⟩, by simp [exDag_F], rfl, rfl⟩
theorem ex_reach03 : ReachP exDag_F 0 3 := .tail (.edge ex_edge01) ex_edge13

/-- declarations for the diamond: 0 and 3 write resource 7, 1 and 2 read it -/
def exDecls_F : List FnDecl := [⟨[], [7], 0⟩, ⟨[7], [], 1⟩, ⟨[7], [], 2⟩, ⟨[], [7], 3⟩]

theorem exDecls_ordered_F : ∀ u v, u < exCfg_F.n → v < exCfg_F.n → u ≠ v →
    conflict (declOf exDecls_F u) (declOf exDecls_F v) = true → ReachP exCfg_F.D u v ∨ ReachP exCfg_F.D v u := by
  have hpairs : ∀ p ∈ [(0, 1), (0, 2), (0, 3), (1, 3), (2, 3)], ReachP exDag_F p.1 p.2 := by
    intro p hp
    simp only [List.mem_cons, List.not_mem_nil, or_false] at hp
    rcases hp with rfl | rfl | rfl | rfl | rfl
    · exact .edge ex_edge01
    · exact .edge ex_edge02
    · exact ex_reach03
    · exact .edge ex_edge13
    · exact .edge ex_edge23
  have hdec : ∀ u ∈ List.range 4, ∀ v ∈ List.range 4, u ≠ v → conflict (declOf exDecls_F u) (declOf exDecls_F v) = true →
      ((u, v) ∈ [(0, 1), (0, 2), (0, 3), (1, 3), (2, 3)] ∨ (v, u) ∈ [(0, 1), (0, 2), (0, 3), (1, 3), (2, 3)]) := by
    decide
  intro u v hu hv hne hcf
  rcases hdec u (List.mem_range.mpr hu) v (List.mem_range.mpr hv) hne hcf with h | h
  · exact Or.inl (hpairs _ h)
  · exact Or.inr (hpairs _ h)

/-- two unrelated functions, short-circuiting without being sequential (so not `Cfg.ApiOk`) -/
def cxCfg_F : Cfg := { D := ⟨2, []⟩, counts0 := [0, 0], errMode := .shortCircuit }

theorem cxCfg_good_F : GoodCfg cxCfg_F := goodCfg_of_check (by decide)

/-- the same diamond as `exDag_F` -/
def exD_G : Dag := ⟨4, [⟨0, 1, .logic⟩, ⟨0, 2, .logic⟩, ⟨1, 3, .logic⟩, ⟨2, 3, .data⟩]⟩

def exC_G (lim : Option Nat) : Cfg :=
  { D := exD_G, counts0 := [0, 1, 1, 2], limit := lim, errMode := .collect, strat := .pollN 1 }

theorem exC_good_G (lim : Option Nat) : GoodCfg (exC_G lim) := exCfg_good_F _ rfl rfl

end FG
