/-
  Proofs/AdvanceUntil.lean — the monitor's own moves, for completeness.  `advanceUntil` walks along the path
  of `settleN` (`advanceUntil_settleN`, `Proofs/MonitorMoves.lean`), so once its fuel reaches `settleFuel`
  it succeeds whenever `settle` ends in a state satisfying the predicate.  `FifoInv`: the functions
  handed out are the invoked ones followed by the not yet invoked in-flight ones — an invariant of
  every run that invokes in hand-out order, in particular of the monitor's `settle1` (it invokes the
  first pending function).
-/
import FnGraphVerif.Proofs.MonitorMoves
import FnGraphVerif.Proofs.LiveMeasure
namespace FG
variable {c : Cfg} {s s' : PState}

theorem advanceUntil_false (p : PState → Bool) (k : Nat) (s : PState)
    (h : (advanceUntil c p k s).2 = false) :
    (advanceUntil c p k s).1 = settleN c k s ∧ p (settleN c k s) = false := by
  obtain ⟨j, _, e1, _, e3, e4⟩ := advanceUntil_settleN (c := c) p k s
  rw [e3] at h
  exact ⟨e1.trans (e4 h), e4 h ▸ h⟩

theorem advanceUntil_succeeds (hc : GoodCfg c) (hr : Reachable c s) (p : PState → Bool) {k : Nat}
    (hk : settleFuel c ≤ k) (hp : p (settle c s) = true) : (advanceUntil c p k s).2 = true := by
  cases h : (advanceUntil c p k s).2 with
  | true => rfl
  | false =>
    have := (advanceUntil_false p k s h).2
    rw [settleN_ge hc (inv0_reachable hc hr) hk, hp] at this
    exact absurd this (by simp)

theorem trackFuel_ge (c : Cfg) : settleFuel c ≤ trackFuel c := by
  unfold trackFuel; omega

theorem internal_run_shape {c : Cfg} {as : List Action} {s s' : PState} (hint : ∀ a ∈ as, a.internal)
    (h : run c s as = some s') : ∃ L, s'.handedOut = s.handedOut ++ L ∧ s'.inflight = s.inflight ++ L :=
  run_rel (R := fun s s' => ∃ L, s'.handedOut = s.handedOut ++ L ∧ s'.inflight = s.inflight ++ L)
    (ok := Action.internal) (fun _ => ⟨[], by simp, by simp⟩)
    (fun ⟨L1, a1, b1⟩ ⟨L2, a2, b2⟩ =>
      ⟨L1 ++ L2, by rw [a2, a1, List.append_assoc], by rw [b2, b1, List.append_assoc]⟩)
    (fun hok hs => (internal_step_shape hok hs).elim
      (fun ⟨d1, d2⟩ => ⟨[], by simp [d1], by simp [d2]⟩) (fun ⟨g, d1, d2⟩ => ⟨[g], d1, d2⟩)) hint h

/-- an advance "until one more function is handed out" that succeeds stops right after ONE hand-out:
    the internal steps before the last leave `handedOut` alone (`p` fails there), the last appends one id -/
theorem advanceUntil_handout_stop (k : Nat) (s : PState)
    (h : (advanceUntil c (fun u => decide (s.handedOut.length < u.handedOut.length)) k s).2 = true) :
    ∃ g, (advanceUntil c (fun u => decide (s.handedOut.length < u.handedOut.length)) k s).1.handedOut
          = s.handedOut ++ [g] ∧
        (advanceUntil c (fun u => decide (s.handedOut.length < u.handedOut.length)) k s).1.inflight
          = s.inflight ++ [g] := by
  obtain ⟨hp1, he | ⟨s0, a, as, has, hrun, hp0, hlast⟩⟩ := advanceUntil_true' _ k s h
  · rw [he] at hp1; simp at hp1
  · obtain ⟨L, e1, e2⟩ := internal_run_shape has hrun
    have hL : L = [] := by
      simp only [decide_eq_false_iff_not, e1, List.length_append] at hp0
      exact List.length_eq_zero_iff.mp (by omega)
    subst hL
    simp only [List.append_nil] at e1 e2
    rcases internal_step_shape (nextInternal_internal (settle1_some_iff.mp hlast).1) (settle1_step hlast) with
      ⟨d1, _⟩ | ⟨g', d1, d2⟩
    · exfalso
      simp only [decide_eq_true_eq, d1, e1] at hp1
      omega
    · exact ⟨g', by rw [d1, e1], by rw [d2, e2]⟩

def FifoInv (s : PState) : Prop :=
  s.handedOut = s.invoked ++ s.inflight.filter (fun f => decide (f ∉ s.invoked))

theorem FifoInv.invoked_prefix (h : FifoInv s) : s.invoked <+: s.handedOut := by
  unfold FifoInv at h
  rw [h]
  exact List.prefix_append _ _

theorem filter_snoc_invoked (l inv : List Nat) (f : Nat) :
    l.filter (fun g => decide (g ∉ inv ++ [f])) =
      (l.filter (fun g => decide (g ∉ inv))).filter (fun g => g != f) := by
  rw [List.filter_filter]
  apply List.filter_congr
  intro g _
  by_cases h1 : g ∈ inv <;> by_cases h2 : g = f <;> simp [h1, h2]

/-- every step of a run that invokes the first pending function keeps `FifoInv`; by the four ways a
    step can touch `inflight`, `invoked`, `handedOut` (`step_lists`) -/
theorem fifoInv_step (hinv : Inv0 c s) (h : FifoInv s) {a : Action} (hs : step? c s a = some s')
    (ha : ∀ f, a = .invoke f → (s.inflight.filter (fun g => decide (g ∉ s.invoked))).head? = some f) :
    FifoInv s' := by
  unfold FifoInv at h ⊢
  rcases step_lists hs with ⟨_, e1, e2, e3, _⟩ | ⟨f, rfl, _, _, e1, e2, e3, _⟩ |
    ⟨f, ok, _, _, hv, e1, e2, e3, _⟩ | ⟨g, rest, _, hq, e1, e2, e3, _⟩ <;> rw [e1, e2, e3]
  · exact h
  · -- the head of the pending list moves to the end of `invoked`
    have hhead := ha f rfl
    rw [filter_snoc_invoked]
    cases hU : s.inflight.filter (fun g => decide (g ∉ s.invoked)) with
    | nil => rw [hU] at hhead; exact absurd hhead (by simp)
    | cons g U' =>
      rw [hU] at hhead h
      simp only [List.head?_cons, Option.some.injEq] at hhead
      subst hhead
      have hnd : (g :: U').Nodup := by rw [← hU]; exact hinv.inflNodup.filter _
      have hg : g ∉ U' := (List.nodup_cons.mp hnd).1
      have : (g :: U').filter (fun x => x != g) = U' := by
        simp only [List.filter_cons, bne_self_eq_false, Bool.false_eq_true, if_false]
        apply List.filter_eq_self.mpr
        intro x hx
        simp only [bne_iff_ne, ne_eq]
        intro hxg; exact hg (hxg ▸ hx)
      rw [this, h]
      simp
  · -- erasing an invoked function does not touch the pending ones
    rw [hinv.inflNodup.erase_eq_filter, List.filter_filter]
    have : s.inflight.filter (fun a => decide (a ∉ s.invoked) && (a != f)) =
        s.inflight.filter (fun a => decide (a ∉ s.invoked)) := by
      apply List.filter_congr
      intro x _
      by_cases hx : x ∈ s.invoked
      · simp [hx]
      · have : x ≠ f := fun e => hx (e ▸ hv)
        simp [hx, this]
    rw [this]
    exact h
  · -- the function handed out was in the ready queue, so it has not been invoked
    have hg : g ∉ s.invoked := by
      intro hgi
      have hnd := hinv.queueNodup
      rw [List.append_assoc] at hnd
      exact (List.nodup_append.mp hnd).2.2 g (by rw [hq]; simp) g
        (List.mem_append_left _ (hinv.invHanded g hgi)) rfl
    rw [List.filter_append]
    simp only [List.filter_cons, hg, not_false_eq_true, decide_true, if_true, List.filter_nil]
    rw [← List.append_assoc, ← h]

theorem fifoInv_settle1 (hinv : Inv0 c s) (h : FifoInv s) {a : Action} (hs : settle1 c s = some (a, s')) :
    FifoInv s' := by
  obtain ⟨hn, hstep⟩ := settle1_some_iff.mp hs
  apply fifoInv_step hinv h hstep
  intro f hf
  subst hf
  rw [List.head?_filter]
  exact nextInternal_invoke hn

theorem fifoInv_settleN (hc : GoodCfg c) (k : Nat) : ∀ {s : PState}, Reachable c s → FifoInv s →
    FifoInv (settleN c k s) := by
  induction k with
  | zero => intro s _ h; exact h
  | succ k ih =>
    intro s hr h
    cases h1 : settle1 c s with
    | none => rw [settleN_of_quiescent h1]; exact h
    | some p =>
      obtain ⟨a, s1⟩ := p
      rw [settleN_succ_some h1]
      exact ih (hr.step _ (settle1_step h1)) (fifoInv_settle1 (inv0_reachable hc hr) h h1)

theorem fifoInv_advanceUntil (hc : GoodCfg c) (p : PState → Bool) (k : Nat) {s : PState}
    (hr : Reachable c s) (h : FifoInv s) : FifoInv (advanceUntil c p k s).1 := by
  obtain ⟨j, _, e1, _⟩ := advanceUntil_settleN (c := c) p k s
  rw [e1]; exact fifoInv_settleN hc j hr h

end FG
