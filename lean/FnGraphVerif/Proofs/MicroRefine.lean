/-
  The micro-step stream model and its inductive invariant `MInv`; the drain steps of one undisturbed
  poll compute `sDrain` (`mrun_drain`; the whole poll: `micro_refines_atomic`, Theorems/C05Micro.lean);
  runs whose drops fall outside polls are simulated by the atomic model.
-/
import FnGraphVerif.Proofs.StreamInv
namespace FG

structure MInv (c : Cfg) (m : MState) : Prop where
  core : SCore c m.s
  park : m.pc = .idle → SPark m.s
  inPoll : m.pc ≠ .idle → m.s.streamDropped = false
  registered : m.pc = .readyPoll → m.s.txOpen = true →
    m.s.wake = true ∨ (m.s.doneQ = [] ∧ m.s.doneRxWaker = true)

theorem minv_init {c : Cfg} (hc : GoodCfg c) : MInv c (minit c) :=
  ⟨score_init hc, fun _ => spark_init c, fun h => absurd rfl h, fun h => (by cases h)⟩

theorem minv_pollBegin {c : Cfg} {m m' : MState} (h : MInv c m) (hs : mstep? c m .pollBegin = some m') :
    MInv c m' := by
  obtain ⟨_, hsd, rfl⟩ := mstep_pollBegin_iff.mp hs
  have hcore := h.core
  exact ⟨hcore.of_flags _ _ _ _ _, fun hp => (by cases hp), fun _ => hsd, fun hp => by cases hp⟩

theorem minv_drainStep {c : Cfg} (hc : GoodCfg c) {m m' : MState} (h : MInv c m)
    (hs : mstep? c m .drainStep = some m') : MInv c m' := by
  obtain ⟨hpc, ⟨x, rest, hq, rfl⟩ | ⟨hq, rfl⟩⟩ := mstep_drainStep_iff.mp hs
  · have hne : m.pc ≠ .idle := by rw [hpc]; simp
    exact ⟨score_release hc h.core hq, fun hp => absurd hp hne, fun _ => h.inPoll hne,
      fun hp => nomatch hp.symm.trans hpc⟩
  · have hcore := h.core
    have hsd : m.s.streamDropped = false := h.inPoll (by rw [hpc]; simp)
    refine ⟨?_, fun hp => (nomatch hp), fun _ => ?_, fun _ htx =>
      Or.inr ⟨?_, sReg_registered ((sReg_sameOuter m.s).txOpen.symm.trans htx)⟩⟩ <;> rw [sReg_eq]
    · exact hcore.of_flags _ _ _ _ _
    · exact hsd
    · exact hq

theorem minv_readyStep {c : Cfg} {m m' : MState} (h : MInv c m)
    (hs : mstep? c m .readyStep = some m') : MInv c m' := by
  obtain ⟨hpc, rfl⟩ := mstep_readyStep_iff.mp hs
  have hcore := score_sReadyHalf h.core
  obtain ⟨_, f2, _, _⟩ := sReadyHalf_facts m.s
  refine ⟨hcore.of_flags _ _ _ _ _, fun _ => ⟨fun hp => ?_, fun hp _ => ?_⟩, fun hp => absurd rfl hp, fun hp => by cases hp⟩
  · obtain ⟨g1, g2, _⟩ := f2 (of_decide_eq_true hp)
    exact ⟨g1, g2⟩
  · obtain ⟨_, _, g3, g4, g5⟩ := f2 (of_decide_eq_true hp)
    show (sReadyHalf m.s).1.wake = true ∨ ((sReadyHalf m.s).1.doneQ = [] ∧ (sReadyHalf m.s).1.doneRxWaker = true)
    rw [sReadyHalf_wake, g3, g4]
    exact h.registered hpc g5

theorem minv_drop {c : Cfg} {m m' : MState} {f : Nat} (h : MInv c m)
    (hs : mstep? c m (.drop f) = some m') : MInv c m' := by
  obtain ⟨s', hd, rfl⟩ := mstep_drop_iff.mp hs
  have hf := sdrop_spec hd
  exact ⟨score_drop h.core hd, fun hp => spark_drop (h.park hp) hd,
    fun hp => hf.streamDropped.trans (h.inPoll hp),
    fun hp htx => wakeOrReg_drop hd (h.registered hp (hf.txOpen ▸ htx))⟩

theorem minv_dropStream {c : Cfg} {m m' : MState} (h : MInv c m)
    (hs : mstep? c m .dropStream = some m') : MInv c m' := by
  obtain ⟨hpc, _, rfl⟩ := mstep_dropStream_iff.mp hs
  have hcore := h.core
  exact ⟨{ hcore with droppedDone := fun hx => by cases hx },
    fun _ => ⟨(h.park hpc).parked, fun _ hx => by cases hx⟩, fun hp => absurd hpc hp,
    fun hp => nomatch hp.symm.trans hpc⟩

theorem minv_step {c : Cfg} (hc : GoodCfg c) {m m' : MState} {a : MAction} (h : MInv c m)
    (hs : mstep? c m a = some m') : MInv c m' := by
  cases a with
  | pollBegin => exact minv_pollBegin h hs
  | drainStep => exact minv_drainStep hc h hs
  | readyStep => exact minv_readyStep h hs
  | drop f => exact minv_drop h hs
  | dropStream => exact minv_dropStream h hs

theorem minv_reachable {c : Cfg} (hc : GoodCfg c) {m : MState} (hr : MReachable c m) : MInv c m := by
  induction hr with
  | init => exact minv_init hc
  | step a _ hs ih => exact minv_step hc ih hs

theorem mrun_isRun (c : Cfg) : IsRun (mstep? c) (mrun c) :=
  ⟨fun _ => rfl, fun m a as => by rw [mrun]; cases mstep? c m a <;> rfl⟩

theorem mrun_append (c : Cfg) (m : MState) (as bs : List MAction) :
    mrun c m (as ++ bs) = (mrun c m as).bind (fun m' => mrun c m' bs) :=
  (mrun_isRun c).append m as bs

/-- the state after the given micro actions from the initial state (`minit` if one is not enabled) -/
def mexRun (c : Cfg) (as : List MAction) : MState := (mrun c (minit c) as).getD (minit c)

theorem mexRun_reachable {c : Cfg} {as : List MAction}
    (h : (mrun c (minit c) as).isSome = true) : MReachable c (mexRun c as) :=
  (mrun_isRun c).invariant_getD (fun hr hs => .step _ hr hs) .init h

theorem mrun_cons_some {c : Cfg} {m m' : MState} {a : MAction} (h : mstep? c m a = some m')
    (as : List MAction) : mrun c m (a :: as) = mrun c m' as :=
  (mrun_isRun c).cons_some h as

theorem mrun_drain (c : Cfg) (r : Option PollRes) (as : List MAction) :
    ∀ (k : Nat) (s : SState), k = s.doneQ.length + 1 →
      mrun c { s := s, pc := .draining, result := r } (List.replicate k .drainStep ++ as) =
      mrun c { s := sDrain c k s, pc := .readyPoll, result := r } as := by
  intro k
  induction k with
  | zero => intro s hk; omega
  | succ k ih =>
    intro s hk
    rw [List.replicate_succ, List.cons_append]
    cases hq : s.doneQ with
    | nil =>
      rw [hq] at hk
      obtain rfl : k = 0 := by simpa using hk
      rw [mrun_cons_some (mstep_drainStep_iff.mpr ⟨rfl, Or.inr ⟨hq, rfl⟩⟩), sDrain_nil c 0 hq]
      rfl
    | cons x rest =>
      rw [hq] at hk
      rw [mrun_cons_some (mstep_drainStep_iff.mpr ⟨rfl, Or.inl ⟨x, rest, hq, rfl⟩⟩), sDrain_cons c k hq]
      exact ih (sRelease c s x rest) (by simpa using hk)

/-- the state a completed poll leaves behind in the micro model, in terms of the atomic `spoll` -/
def afterPoll (c : Cfg) (s : SState) : MState :=
  { s := { (spoll c true s).1 with lastPending := decide ((spoll c true s).2 = .pending) },
    pc := .idle, result := some (spoll c true s).2 }

/-- link to the atomic `poll` action for the plain stream (`Strat.non`): `sipoll` is `spoll` plus
    `lastPending` and the wrapper's private `im` -/
theorem micro_refines_sipoll (c : Cfg) (s : SState) (hst : c.strat = .non) (hian : s.im.ian = false)
    (hsig : s.im.sig = false) :
    ∃ i, (sipoll c true s).1 = { (afterPoll c s).s with im := i } ∧ i.ian = false ∧ i.sig = false ∧
      ((sipoll c true s).2.1 = .pending ↔ (afterPoll c s).result = some .pending) := by
  obtain ⟨t1, t2, t3⟩ := pollNext_transparent (Or.inl hst) hsig hian (underOf (spoll c true s).2)
  have hout : (pollNext c.strat s.im (underOf (spoll c true s).2)).2 = .pending ↔
      (spoll c true s).2 = .pending := by
    rw [t3]
    cases (spoll c true s).2 <;> simp [underOf, transparentOut]
  have hpi : pollsInner c.strat s.im = true := by
    rw [pollsInner_eq, hst, interruptCheck_non]
    simp [hian, hsig]
  rw [sipoll_inner c true s hpi]
  refine ⟨_, ?_, t2, t1, hout.trans ?_⟩
  · simp only [afterPoll, decide_eq_decide.mpr hout]
  · simp [afterPoll]

/-! whole-run refinement: a micro run of the plain stream (`Strat.non`) in which
  every `drop` happens outside a poll (`MReachableA`) is simulated by the atomic model: at every
  idle micro state the `SState` is `SReachable c true` up to the interrupt wrapper's private `im`
  (which the micro model, having no wrapper, never touches).

  `mstep?` has no wrapper, so its atomic counterpart is `sstep?` at `Strat.non`, where `sipoll` is
  `spoll` plus bookkeeping (`micro_refines_sipoll`); with drops only outside polls `wake` agrees exactly. -/

def noIm (s : SState) : SState := { s with im := {} }

/-- micro reachability with the atomic discipline: `drop` only while the consumer is outside a poll -/
inductive MReachableA (c : Cfg) : MState → Prop
  | init : MReachableA c (minit c)
  | step {m m' : MState} (a : MAction) : MReachableA c m → (∀ f, a = .drop f → m.pc = .idle) →
      mstep? c m a = some m' → MReachableA c m'

theorem MReachableA.reachable {c : Cfg} {m : MState} (h : MReachableA c m) : MReachable c m := by
  induction h with
  | init => exact MReachable.init
  | step a _ _ hs ih => exact MReachable.step a ih hs

def okA (m : MState) : MAction → Bool
  | .drop _ => decide (m.pc = .idle)
  | _ => true

def mrunA (c : Cfg) (m : MState) : List MAction → Option MState
  | [] => some m
  | a :: as =>
    if okA m a then
      match mstep? c m a with
      | none => none
      | some m' => mrunA c m' as
    else none

theorem mrunA_isRun (c : Cfg) : IsRun (fun m a => if okA m a then mstep? c m a else none) (mrunA c) :=
  ⟨fun _ => rfl, fun m a as => by
    rw [mrunA]
    split
    · cases mstep? c m a <;> rfl
    · rfl⟩

def mexRunA (c : Cfg) (as : List MAction) : MState := (mrunA c (minit c) as).getD (minit c)

theorem mexRunA_reachable {c : Cfg} {as : List MAction}
    (h : (mrunA c (minit c) as).isSome = true) : MReachableA c (mexRunA c as) := by
  refine (mrunA_isRun c).invariant_getD (fun hr hs => ?_) .init h
  split at hs
  · rename_i hok
    exact .step _ hr (fun f hf => by subst hf; simpa [okA] using hok) hs
  · cases hs

theorem noIm_sRelease (c : Cfg) (s : SState) (x : Nat) (rest : List Nat) :
    noIm (sRelease c s x rest) = sRelease c (noIm s) x rest := rfl

theorem noIm_spoll (c : Cfg) (s : SState) :
    spoll c true (noIm s) = (noIm (spoll c true s).1, (spoll c true s).2) := by
  rw [spoll_eq, spoll_eq]
  exact (congrArg sReadyHalf (sDrain_setIm c {} _ { s with wake := false })).trans (sReadyHalf_setIm _ {})

theorem noIm_sdrop (c : Cfg) (s : SState) (f : Nat) : sdrop c (noIm s) f = (sdrop c s f).map noIm :=
  sdrop_comm c noIm s f rfl rfl rfl rfl rfl

theorem noIm_lastPending {a b : SState} (h : noIm a = noIm b) (d : Bool) :
    noIm { a with lastPending := d } = noIm { b with lastPending := d } := by
  show { noIm a with lastPending := d } = { noIm b with lastPending := d }
  rw [h]

/-- `s` is the atomic state at the beginning of the poll the micro state `m` is in (or `m`'s own
    state when idle); the rest of `m`'s poll, run without drops, computes `spoll c true s` -/
inductive MSimAt (c : Cfg) (m : MState) (s : SState) : Prop
  | idle (hpc : m.pc = .idle) (hs : noIm m.s = noIm s)
  | draining (hpc : m.pc = .draining) (hsd : s.streamDropped = false)
      (hs : noIm (sReadyHalf (sDrain c (m.s.doneQ.length + 1) m.s)).1 = noIm (spoll c true s).1)
      (hr : (sReadyHalf (sDrain c (m.s.doneQ.length + 1) m.s)).2 = (spoll c true s).2)
  | readyPoll (hpc : m.pc = .readyPoll) (hsd : s.streamDropped = false)
      (hs : noIm (sReadyHalf m.s).1 = noIm (spoll c true s).1) (hr : (sReadyHalf m.s).2 = (spoll c true s).2)

theorem MSimAt.of_idle {c : Cfg} {m : MState} {s : SState} (h : MSimAt c m s) (hpc : m.pc = .idle) :
    noIm m.s = noIm s := by
  cases h with
  | idle _ hs => exact hs
  | draining hpc' => exact nomatch hpc.symm.trans hpc'
  | readyPoll hpc' => exact nomatch hpc.symm.trans hpc'

/-- the atomic run behind a micro state: a plain-stream state (`ian`, `sig` clear) -/
def MSim (c : Cfg) (m : MState) : Prop :=
  ∃ s, SReachable c true s ∧ s.im.ian = false ∧ s.im.sig = false ∧ MSimAt c m s

theorem msim_step {c : Cfg} (hst : c.strat = .non) {m m' : MState} {a : MAction} (h : MSim c m)
    (hdisc : ∀ f, a = .drop f → m.pc = .idle) (hs : mstep? c m a = some m') : MSim c m' := by
  obtain ⟨s, hr, hian, hsig, hw⟩ := h
  cases a with
  | pollBegin =>
    obtain ⟨hpc, hsd, rfl⟩ := mstep_pollBegin_iff.mp hs
    have e := hw.of_idle hpc
    have hp : spoll c true (noIm m.s) = spoll c true (noIm s) := by rw [e]
    rw [noIm_spoll, noIm_spoll] at hp
    exact ⟨s, hr, hian, hsig, .draining rfl ((congrArg SState.streamDropped e).symm.trans hsd)
      (Prod.mk.inj hp).1 (Prod.mk.inj hp).2⟩
  | drainStep =>
    obtain ⟨hpc, hcase⟩ := mstep_drainStep_iff.mp hs
    cases hw with
    | draining _ hsd h1 h2 =>
      rcases hcase with ⟨x, rest, hq, rfl⟩ | ⟨hq, rfl⟩
      · rw [sDrain_cons c _ hq, show m.s.doneQ.length = rest.length + 1 by rw [hq]; rfl] at h1 h2
        exact ⟨s, hr, hian, hsig, .draining hpc hsd h1 h2⟩
      · rw [sDrain_nil c _ hq] at h1 h2
        exact ⟨s, hr, hian, hsig, .readyPoll rfl hsd h1 h2⟩
    | idle hpc' => exact nomatch hpc.symm.trans hpc'
    | readyPoll hpc' => exact nomatch hpc.symm.trans hpc'
  | readyStep =>
    obtain ⟨hpc, rfl⟩ := mstep_readyStep_iff.mp hs
    cases hw with
    | readyPoll _ hsd e1 e2 =>
      obtain ⟨i, hi, hian', hsig', _⟩ := micro_refines_sipoll c s hst hian hsig
      refine ⟨(sipoll c true s).1, .step .poll hr (sstep_poll_iff.mpr ⟨hsd, rfl⟩), hi ▸ hian', hi ▸ hsig',
        .idle rfl ?_⟩
      rw [hi, afterPoll, e2]
      exact noIm_lastPending e1 _
    | idle hpc' => exact nomatch hpc.symm.trans hpc'
    | draining hpc' => exact nomatch hpc.symm.trans hpc'
  | drop f =>
    have hpc := hdisc f rfl
    obtain ⟨s1, hd, rfl⟩ := mstep_drop_iff.mp hs
    have h1 : sdrop c (noIm m.s) f = some (noIm s1) := by rw [noIm_sdrop, hd]; rfl
    rw [hw.of_idle hpc, noIm_sdrop] at h1
    obtain ⟨s2, hd2, e⟩ := Option.map_eq_some_iff.mp h1
    have him := (sdrop_spec hd2).im
    exact ⟨s2, .step (.drop f) hr hd2, him ▸ hian, him ▸ hsig, .idle hpc e.symm⟩
  | dropStream =>
    obtain ⟨hpc, hsd, rfl⟩ := mstep_dropStream_iff.mp hs
    have e := hw.of_idle hpc
    exact ⟨sdropStream s, .step .dropStream hr (sstep_dropStream_iff.mpr
      ⟨(congrArg SState.streamDropped e).symm.trans hsd, rfl⟩), hian, hsig, .idle hpc (congrArg sdropStream e)⟩

theorem msim_reachableA {c : Cfg} (hst : c.strat = .non) {m : MState} (hr : MReachableA c m) : MSim c m := by
  induction hr with
  | init => exact ⟨sinit c, .init, rfl, rfl, .idle rfl rfl⟩
  | step a _ hdisc hs ih => exact msim_step hst ih hdisc hs

end FG
