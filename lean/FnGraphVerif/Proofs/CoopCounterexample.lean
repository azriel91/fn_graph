/-
  Proofs/CoopCounterexample.lean — why `trackFut_sound` needs `coop = false`: in a coop session the hand-out
  event moves the observed function to the front of the model's ready queue, which is not an action
  of the model.  Concretely: two independent functions, ready queue `[1, 0]`; the coop monitor
  accepts `handout 0` and ends in a state with `handedOut = [0]`, which no run of the model from
  the initial state reaches (the model hands out `1` first).
-/
import FnGraphVerif.Proofs.MonitorMoves
namespace FG

def coopC_P : Cfg := { D := ⟨2, []⟩, counts0 := [0, 0] }

def twoIndepCoop : MonCtx :=
  { c := coopC_P, decls := [], userD := ⟨2, []⟩, rev := false, control := false,
    interruptible := false, coop := true }

/-- nothing handed out yet and the ready queue is `[1, 0]`, or `1` was handed out first -/
def OneHandedOutFirst (s : PState) : Prop :=
  (s.handedOut = [] ∧ s.inflight = [] ∧ s.doneQ = [] ∧ s.readyQ = [1, 0]) ∨ [1] <+: s.handedOut

theorem oneHandedOutFirst_step {c : Cfg} (hincl : c.incl = true) {s s' : PState} {a : Action}
    (hj : OneHandedOutFirst s) (h : step? c s a = some s') : OneHandedOutFirst s' := by
  rcases hj with ⟨h1, h2, h3, h4⟩ | hj
  · cases a with
    | queuerRecv =>
      obtain ⟨_, _, x, rest, hq, _⟩ := step_queuerRecv_iff.mp h
      rw [h3] at hq; exact absurd hq (by simp)
    | queuerEnd => obtain ⟨_, _, _, rfl⟩ := step_queuerEnd_iff.mp h; exact Or.inl ⟨h1, h2, h3, h4⟩
    | schedPoll =>
      have hcase := spApply_eq_some (step_schedPoll_iff.mp h).2.2.2
      rcases hcase with ⟨_, rfl⟩ | ⟨_, rfl⟩ | ⟨_, rfl⟩ | ⟨_, f, rest, hq, rfl⟩ | ⟨_, f, rest, hq, ⟨_, rfl⟩ | ⟨hi, _⟩⟩
      · exact Or.inl ⟨h1, h2, h3, h4⟩
      · exact Or.inl ⟨h1, h2, h3, h4⟩
      · exact Or.inl ⟨h1, h2, h3, h4⟩
      · right
        rw [h4] at hq
        simp only [List.cons.injEq] at hq
        simp only [handOut, h1, List.nil_append, ← hq.1]
        exact List.prefix_refl _
      · right
        rw [h4] at hq
        simp only [List.cons.injEq] at hq
        simp only [handOut, h1, List.nil_append, ← hq.1]
        exact List.prefix_refl _
      · -- the interrupted item is swallowed only when `incl = false`
        rw [hincl] at hi; exact absurd hi (by simp)
    | invoke f =>
      obtain ⟨hf, _, _⟩ := step_invoke_iff.mp h
      rw [h2] at hf; exact absurd hf (by simp)
    | finish f ok =>
      obtain ⟨⟨hf, _, _⟩, _⟩ := step_finish_iff.mp h
      rw [h2] at hf; exact absurd hf (by simp)
    | interrupt => rw [step_interrupt_iff.mp h]; exact Or.inl ⟨h1, h2, h3, h4⟩
    | schedEnd => obtain ⟨_, _, _, rfl⟩ := step_schedEnd_iff.mp h; exact Or.inl ⟨h1, h2, h3, h4⟩
    | ret => obtain ⟨_, _, _, rfl⟩ := step_ret_iff.mp h; exact Or.inl ⟨h1, h2, h3, h4⟩
  · exact Or.inr (hj.trans (step_handedOut_prefix h))

/-- **`coop = false` cannot be dropped from `trackFut_sound`**: a coop session, the monitor in the
    (reachable) initial state, an accepted event — and no run of the model at all leads from the
    monitor's state before the event to its state after it. -/
theorem trackFut_sound_coop_counter :
    ∃ (x : MonCtx) (t : TrackSt) (e : Ev), x.coop = true ∧ Reachable x.c t.s ∧
      (∀ n ∈ (trackFut x t e).2, n.ok = true) ∧
      ¬ ∃ as, run x.c t.s as = some (trackFut x t e).1.s := by
  refine ⟨twoIndepCoop, { s := init coopC_P }, .handout 0, rfl, .init, by decide, ?_⟩
  rintro ⟨as, hrun⟩
  have hj : OneHandedOutFirst (init coopC_P) := Or.inl (by decide)
  have hj' := run_invariant (fun hj hs => oneHandedOutFirst_step (c := coopC_P) rfl hj hs) hj hrun
  have hh : (trackFut twoIndepCoop { s := init coopC_P } (.handout 0)).1.s.handedOut = [0] := by decide
  rcases hj' with ⟨h1, _⟩ | hp
  · rw [hh] at h1; exact absurd h1 (by simp)
  · rw [hh] at hp
    obtain ⟨r, hr⟩ := hp
    simp at hr

end FG
