/-
  Proofs/RunBase.lean — `run`, `Reachable` and `ReachableFrom` are three spellings of "some schedule
  leads there"; every other module gets its `run` / reachability lemmas from here.
-/
import FnGraphVerif.Model.Proto
import FnGraphVerif.Proofs.PartialRun
namespace FG

/-- the initial state of a run that is handed an `InterruptibilityState` used before: a signal may
    still sit in its channel (`s0`), a signal may have been received (`r0`), polls may have been
    counted (`k0`) -/
def initWith (c : Cfg) (s0 r0 : Bool) (k0 : Nat) : PState :=
  { init c with im := { sent := s0, recv := r0, cnt := k0 } }

inductive ReachableFrom (c : Cfg) (s₀ : PState) : PState → Prop
  | refl : ReachableFrom c s₀ s₀
  | step {s s' : PState} (a : Action) : ReachableFrom c s₀ s → step? c s a = some s' →
      ReachableFrom c s₀ s'

/-- every state a run with carried interrupt state can produce -/
def ReachableW (c : Cfg) (s0 r0 : Bool) (k0 : Nat) (s : PState) : Prop :=
  ReachableFrom c (initWith c s0 r0 k0) s

variable {c : Cfg} {s s' s₀ s₁ : PState} {as bs : List Action} {a : Action}

theorem run_cons_bind : run c s (a :: as) = (step? c s a).bind (fun s1 => run c s1 as) := by
  simp only [run]; cases step? c s a <;> rfl

theorem run_cons_iff {q : PState} :
    run c s (a :: as) = some q ↔ ∃ s1, step? c s a = some s1 ∧ run c s1 as = some q := by
  rw [run_cons_bind]
  cases step? c s a <;> simp

theorem run_isRun (c : Cfg) : IsRun (step? c) (run c) := ⟨fun _ => rfl, fun _ _ _ => run_cons_bind⟩

theorem run_append : run c s (as ++ bs) = (run c s as).bind (fun s1 => run c s1 bs) :=
  (run_isRun c).append s as bs

theorem run_append_of (h : run c s as = some s₁) : run c s (as ++ bs) = run c s₁ bs := by
  rw [run_append, h]; rfl

theorem run_snoc (h : run c s₀ as = some s) (hs : step? c s a = some s') :
    run c s₀ (as ++ [a]) = some s' := by
  rw [run_append_of h, run_cons_bind, hs]; rfl

theorem run_rel {R : PState → PState → Prop} {ok : Action → Prop} (refl : ∀ s, R s s)
    (trans : ∀ {s t u}, R s t → R t u → R s u)
    (step : ∀ {s a s'}, ok a → step? c s a = some s' → R s s') :
    ∀ {as : List Action} {s s' : PState}, (∀ a ∈ as, ok a) → run c s as = some s' → R s s' :=
  (run_isRun c).rel refl trans step

theorem run_invariant {P : PState → Prop}
    (hstep : ∀ {s s' a}, P s → step? c s a = some s' → P s') (h0 : P s)
    (h : run c s as = some s') : P s' :=
  (run_isRun c).invariant hstep h0 h

theorem ReachableFrom.of_run (h0 : ReachableFrom c s₀ s) (h : run c s as = some s') :
    ReachableFrom c s₀ s' :=
  run_invariant (fun h hs => .step _ h hs) h0 h

theorem reachableFrom_iff_run : ReachableFrom c s₀ s ↔ ∃ as, run c s₀ as = some s := by
  constructor
  · intro h
    induction h with
    | refl => exact ⟨[], rfl⟩
    | step a _ hs ih => obtain ⟨as, has⟩ := ih; exact ⟨as ++ [a], run_snoc has hs⟩
  · rintro ⟨as, h⟩; exact .of_run .refl h

theorem ReachableFrom.trans {s₁ : PState} (h1 : ReachableFrom c s₀ s₁) (h2 : ReachableFrom c s₁ s) :
    ReachableFrom c s₀ s := by
  induction h2 with
  | refl => exact h1
  | step a _ hs ih => exact .step a ih hs

theorem reachable_iff_reachableFrom : Reachable c s ↔ ReachableFrom c (init c) s := by
  constructor
  · intro h
    induction h with
    | init => exact .refl
    | step a _ hs ih => exact .step a ih hs
  · intro h
    induction h with
    | refl => exact .init
    | step a _ hs ih => exact .step a ih hs

theorem Reachable.of_run (hr : Reachable c s) (h : run c s as = some s') : Reachable c s' :=
  reachable_iff_reachableFrom.mpr ((reachable_iff_reachableFrom.mp hr).of_run h)

theorem ReachableFrom.invariant {P : PState → Prop}
    (hstep : ∀ {s s' a}, P s → step? c s a = some s' → P s') (h0 : P s₀)
    (hr : ReachableFrom c s₀ s) : P s := by
  induction hr with
  | refl => exact h0
  | step a _ h ih => exact hstep ih h

theorem Reachable.invariant {P : PState → Prop}
    (hstep : ∀ {s s' a}, P s → step? c s a = some s' → P s') (h0 : P (FG.init c))
    (hr : Reachable c s) : P s :=
  (reachable_iff_reachableFrom.mp hr).invariant hstep h0

theorem reachableFrom_of_any {p : PState → Bool} (h : (run c s₀ as).any p = true) :
    ∃ s, ReachableFrom c s₀ s ∧ p s = true := by
  cases ho : run c s₀ as with
  | none => rw [ho] at h; cases h
  | some s => rw [ho] at h; exact ⟨s, .of_run .refl ho, h⟩

theorem reachable_of_any {as : List Action} {p : PState → Bool}
    (h : (run c (init c) as).any p = true) : ∃ s, Reachable c s ∧ p s = true :=
  let ⟨s, hr, hp⟩ := reachableFrom_of_any h
  ⟨s, reachable_iff_reachableFrom.mpr hr, hp⟩

theorem initWith_fresh (c : Cfg) : initWith c false false 0 = init c := by unfold initWith init; rfl

theorem reachable_iff_reachableW : Reachable c s ↔ ReachableW c false false 0 s := by
  rw [ReachableW, initWith_fresh]; exact reachable_iff_reachableFrom

theorem reachableW_of_any {s0 r0 : Bool} {k0 : Nat} {as : List Action} {p : PState → Bool}
    (h : (run c (initWith c s0 r0 k0) as).any p = true) : ∃ s, ReachableW c s0 r0 k0 s ∧ p s = true :=
  reachableFrom_of_any h

/-- a list that every step extends is extended along a run -/
theorem run_prefix {g : PState → List Nat}
    (hstep : ∀ {s s' : PState} {a : Action}, step? c s a = some s' → g s <+: g s')
    (h : run c s as = some s') : g s <+: g s' :=
  run_invariant (P := fun t => g s <+: g t) (fun h hs => h.trans (hstep hs)) (List.prefix_refl _) h

end FG
