/-
  Proofs/PollObs.lean — what one poll of the stream model (`sipoll`) does to the fields the
  monitors look at, in terms of the observation the harness would log of it (`sipollObs`).
-/
import FnGraphVerif.Proofs.TraceDefs
import FnGraphVerif.Proofs.StreamStep
namespace FG

def PollObs.ys : PollObs → List Nat
  | .some f => [f]
  | .isome f => [f]
  | _ => []

/-- the five observations: an item answer with its item, or one of the three answers without -/
theorem pollObsOf_cases {o : Out} {fo : Option Nat} (h : o.isItem = fo.isSome) (w : Bool) :
    (pollObsOf o fo w).ys = fo.toList ∧
    ((∃ f, fo = some f ∧ ((o = .noInt ∧ pollObsOf o fo w = .some f) ∨
        (o = .intSome ∧ pollObsOf o fo w = .isome f))) ∨
     (fo = none ∧ ((o = .intNone ∧ pollObsOf o fo w = .inone) ∨ (o = .endd ∧ pollObsOf o fo w = .none) ∨
        (o = .pending ∧ pollObsOf o fo w = .pending w)))) := by
  cases o <;> cases fo <;> simp_all [Out.isItem, pollObsOf, PollObs.ys]

/-- what the harness logs for one poll of the model in state `s` -/
def sipollObs (c : Cfg) (drain : Bool) (s : SState) : PollObs :=
  pollObsOf (sipoll c drain s).2.1 (sipoll c drain s).2.2 (sipoll c drain s).1.wake

theorem sStepEvents_poll (c : Cfg) (s : SState) : sStepEvents c s .poll = [.poll (sipollObs c true s)] := rfl

/-- **one poll of the model, as the harness sees it**: the fields the predicates read change by
    exactly the yield the observation shows (`im`, `wake`, `doneQ`, the counts change too), and answer,
    item and observation go together as in `table`; the observation is never `panic` -/
structure SipollObs (c : Cfg) (drain : Bool) (s : SState) : Prop where
  yielded : (sipoll c drain s).1.yielded = s.yielded ++ (sipollObs c drain s).ys
  live : (sipoll c drain s).1.live = s.live ++ (sipollObs c drain s).ys
  droppedRefs : (sipoll c drain s).1.droppedRefs = s.droppedRefs
  streamDropped : (sipoll c drain s).1.streamDropped = s.streamDropped
  lastPending : (sipoll c drain s).1.lastPending = decide ((sipoll c drain s).2.1 = .pending)
  table : (∃ f, (sipoll c drain s).2.2 = some f ∧
        (((sipoll c drain s).2.1 = .noInt ∧ sipollObs c drain s = .some f) ∨
         ((sipoll c drain s).2.1 = .intSome ∧ sipollObs c drain s = .isome f))) ∨
     ((sipoll c drain s).2.2 = none ∧
        (((sipoll c drain s).2.1 = .intNone ∧ sipollObs c drain s = .inone) ∨
         ((sipoll c drain s).2.1 = .endd ∧ sipollObs c drain s = .none) ∨
         ((sipoll c drain s).2.1 = .pending ∧
          sipollObs c drain s = .pending (sipoll c drain s).1.wake)))

theorem sipollObs_spec (c : Cfg) (drain : Bool) (s : SState) : SipollObs c drain s := by
  obtain ⟨hy, ht⟩ := pollObsOf_cases (sipoll_item c drain s) (sipoll c drain s).1.wake
  obtain ⟨k1, k2, k3, k4, k5⟩ := sipoll_keep c drain s
  exact ⟨hy ▸ k1, hy ▸ k2, k3, k4, k5, ht⟩

end FG
