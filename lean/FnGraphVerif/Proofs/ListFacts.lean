/-
  Proofs/ListFacts.lean — the list facts of the development that core / Mathlib (as imported) do
  not have under another name: folds with an invariant, `Nodup` + bounded (pigeonhole), `set` / `sum` /
  `foldl max` on lists of numbers, `zip`, prefixes.
-/
import Mathlib.Data.List.Nodup
import Mathlib.Data.List.Perm.Subperm
namespace FG

/-- a left fold keeps an invariant that may mention the part of the list already consumed -/
theorem foldl_inv {α β : Type} {f : β → α → β} (I : List α → β → Prop) (l : List α) (b : β) (h0 : I [] b)
    (hstep : ∀ p x q b, l = p ++ x :: q → I p b → I (p ++ [x]) (f b x)) : I l (l.foldl f b) := by
  -- for the induction: every split `pre ++ post = l` with `pre` consumed
  have key : ∀ (post pre : List α) (b : β), pre ++ post = l → I pre b → I l (post.foldl f b) := by
    intro post
    induction post with
    | nil => intro pre b hl h; rwa [← hl, List.append_nil]
    | cons x post ih =>
      intro pre b hl h
      exact ih (pre ++ [x]) (f b x) (by rw [← hl, List.append_assoc]; rfl) (hstep pre x post b hl.symm h)
  exact key l [] b rfl h0

theorem all_range2_congr {n : Nat} {p q : Nat → Nat → Bool} (h : ∀ u, u < n → ∀ v, v < n → p u v = q u v) :
    (List.range n).all (fun u => (List.range n).all (p u)) = (List.range n).all (fun u => (List.range n).all (q u)) := by
  have key : ∀ (l : List Nat) (f g : Nat → Bool), (∀ x ∈ l, f x = g x) → l.all f = l.all g := by
    intro l f g hfg
    rw [Bool.eq_iff_iff, List.all_eq_true, List.all_eq_true]
    exact ⟨fun hh x hx => hfg x hx ▸ hh x hx, fun hh x hx => (hfg x hx).symm ▸ hh x hx⟩
  exact key _ _ _ fun u hu => key _ _ _ fun v hv => h u (List.mem_range.mp hu) v (List.mem_range.mp hv)

theorem snoc_eq_append_cons {α : Type} {l D1 D2 : List α} {x e : α} (h : l ++ [x] = D1 ++ e :: D2) :
    (D2 = [] ∧ l = D1 ∧ x = e) ∨ ∃ D2', D2 = D2' ++ [x] ∧ l = D1 ++ e :: D2' := by
  rcases List.eq_nil_or_concat D2 with rfl | ⟨D2', y, rfl⟩
  · obtain ⟨h1, h2⟩ := List.append_inj' h rfl
    exact Or.inl ⟨rfl, h1, (List.cons.inj h2).1⟩
  · have h' : l ++ [x] = (D1 ++ e :: D2') ++ [y] := by rw [h, List.concat_eq_append, List.append_assoc]; rfl
    obtain ⟨h1, h2⟩ := List.append_inj' h' rfl
    rw [(List.cons.inj h2).1, List.concat_eq_append]
    exact Or.inr ⟨D2', rfl, h1⟩

theorem nodup_bounded_length {l : List Nat} {n : Nat} (hnd : l.Nodup) (hb : ∀ x ∈ l, x < n) : l.length ≤ n := by
  simpa using (hnd.subperm fun x hx => List.mem_range.mpr (hb x hx)).length_le

theorem nodup_cons_bounded_length {l : List Nat} {a n : Nat} (hnd : l.Nodup) (ha : a ∉ l) (han : a < n)
    (hb : ∀ x ∈ l, x < n) : l.length + 1 ≤ n := by
  simpa using nodup_bounded_length (List.nodup_cons.mpr ⟨ha, hnd⟩) (List.forall_mem_cons.mpr ⟨han, hb⟩)

theorem perm_range_of_nodup_full {l : List Nat} {n : Nat} (hnd : l.Nodup) (hb : ∀ x ∈ l, x < n)
    (hlen : n ≤ l.length) : l.Perm (List.range n) :=
  (hnd.subperm fun x hx => List.mem_range.mpr (hb x hx)).perm_of_length_le (by simpa using hlen)

theorem mem_of_nodup_full {l : List Nat} {n : Nat} (hnd : l.Nodup) (hb : ∀ x ∈ l, x < n) (hlen : n ≤ l.length)
    {v : Nat} (hv : v < n) : v ∈ l :=
  (perm_range_of_nodup_full hnd hb hlen).mem_iff.mpr (List.mem_range.mpr hv)

/-- a list shorter than `n` misses some id below `n` -/
theorem nodup_missing_G {l : List Nat} {n : Nat} (hlen : l.length < n) : ∃ v, v < n ∧ v ∉ l := by
  apply Classical.byContradiction
  intro h
  have := List.nodup_range.length_le_of_subset (l₂ := l) fun x hx =>
    Classical.byContradiction fun hx' => h ⟨x, List.mem_range.mp hx, hx'⟩
  rw [List.length_range] at this
  omega

theorem getD_set_of_lt (l : List Nat) {c : Nat} (v x : Nat) (h : c < l.length) :
    (l.set c v)[x]?.getD 0 = if x = c then v else l[x]?.getD 0 := by
  rw [List.getElem?_set, if_pos h]
  by_cases hcx : c = x
  · rw [if_pos hcx, if_pos hcx.symm]; rfl
  · rw [if_neg hcx, if_neg (Ne.symm hcx)]

theorem sum_set_add (l : List Nat) (c v : Nat) (h : c < l.length) :
    (l.set c v).sum + l[c]?.getD 0 = l.sum + v := by
  induction l generalizing c with
  | nil => cases h
  | cons a l ih =>
    cases c with
    | zero =>
      rw [List.set_cons_zero, List.sum_cons, List.sum_cons, List.getElem?_cons_zero, Option.getD_some,
        Nat.add_comm v, Nat.add_right_comm, Nat.add_comm l.sum a]
    | succ c =>
      have := ih c (Nat.lt_of_succ_lt_succ h)
      rw [List.set_cons_succ, List.sum_cons, List.sum_cons, List.getElem?_cons_succ, Nat.add_assoc, this,
        Nat.add_assoc]

theorem sum_le_of_bound (l : List Nat) (b : Nat) (h : ∀ x : Nat, l[x]?.getD 0 ≤ b) : l.sum ≤ l.length * b := by
  induction l with
  | nil => exact Nat.zero_le _
  | cons a l ih =>
    have h0 : a ≤ b := h 0
    have := ih fun x => h (x + 1)
    rw [List.sum_cons, List.length_cons, Nat.add_mul, Nat.one_mul]
    omega

theorem le_foldl_max_of_mem (l : List Nat) (a x : Nat) (hx : x ∈ l) : x ≤ l.foldl max a := by
  rw [List.foldl_max]
  exact Nat.le_trans (List.le_max?_getD_of_mem hx) (Nat.le_max_right _ _)

theorem foldl_max_le (l : List Nat) (a b : Nat) (ha : a ≤ b) (h : ∀ x ∈ l, x ≤ b) : l.foldl max a ≤ b := by
  induction l generalizing a with
  | nil => simpa
  | cons c l ih =>
    simp only [List.foldl_cons]
    exact ih _ (Nat.max_le.mpr ⟨ha, h c (by simp)⟩) (fun x hx => h x (by simp [hx]))

theorem list_ext_getD {l l' : List Nat} (hl : l.length = l'.length)
    (h : ∀ v : Nat, v < l.length → l[v]?.getD 0 = l'[v]?.getD 0) : l = l' :=
  List.ext_getElem hl fun v h1 h2 => by
    have := h v h1
    rwa [List.getElem?_eq_getElem h1, List.getElem?_eq_getElem h2] at this

theorem sum_map_ite_eq_count (a : Nat) (l : List Nat) :
    (l.map (fun u => if a = u then 1 else 0)).sum = l.count a := by
  induction l with
  | nil => rfl
  | cons x l ih =>
    rw [List.map_cons, List.sum_cons, ih, List.count_cons, Nat.add_comm]
    simp only [beq_iff_eq, eq_comm (a := x)]

theorem sum_map_add (us : List Nat) (f k : Nat → Nat) :
    (us.map (fun u => f u + k u)).sum = (us.map f).sum + (us.map k).sum := by
  induction us with
  | nil => rfl
  | cons u us ih => simp only [List.map_cons, List.sum_cons, ih]; omega

theorem zip_all_eq_self {α : Type} (p : α × α → Bool) (hp : ∀ x, p (x, x) = true) (l : List α) :
    (l.zip l).all p = true := by
  rw [List.zip_eq_zipWith, List.zipWith_self, List.all_map]
  exact List.all_eq_true.mpr fun x _ => hp x

theorem eq_of_zip_all {α : Type} (p : α × α → Bool) (hp : ∀ x y, p (x, y) = true → x = y) :
    ∀ (l1 l2 : List α), l1.length = l2.length → (l1.zip l2).all p = true → l1 = l2 := by
  intro l1
  induction l1 with
  | nil => intro l2 hl _; cases l2 with
    | nil => rfl
    | cons _ _ => cases hl
  | cons x l1 ih =>
    intro l2 hl h
    cases l2 with
    | nil => cases hl
    | cons y l2 =>
      simp only [List.zip_cons_cons, List.all_cons, Bool.and_eq_true] at h
      rw [hp x y h.1, ih l2 (by simpa using hl) h.2]

theorem prefix_unique {α : Type} (P : α → Prop) :
    ∀ (l1 l2 d1 d2 : List α), l1 ++ d1 = l2 ++ d2 →
      (∀ x ∈ l1, ¬ P x) → (∀ x ∈ l2, ¬ P x) → (∀ x ∈ d1, P x) → (∀ x ∈ d2, P x) → l1 = l2 := by
  intro l1
  induction l1 with
  | nil =>
    intro l2 d1 d2 h _ h2 h3 _
    cases l2 with
    | nil => rfl
    | cons y l2 =>
      exfalso
      simp only [List.nil_append] at h
      exact h2 y List.mem_cons_self (h3 y (h ▸ List.mem_cons_self))
  | cons x l1 ih =>
    intro l2 d1 d2 h h1 h2 h3 h4
    cases l2 with
    | nil =>
      exfalso
      simp only [List.nil_append] at h
      exact h1 x List.mem_cons_self (h4 x (h ▸ List.mem_cons_self))
    | cons y l2 =>
      simp only [List.cons_append, List.cons.injEq] at h
      rw [h.1, ih l2 d1 d2 h.2 (fun z hz => h1 z (List.mem_cons_of_mem _ hz))
        (fun z hz => h2 z (List.mem_cons_of_mem _ hz)) h3 h4]

theorem any_any_comm (xs ys : List Nat) :
    xs.any (fun l => ys.any (fun r => l == r)) = ys.any (fun l => xs.any (fun r => l == r)) := by
  rw [Bool.eq_iff_iff]
  simp only [List.any_eq_true, beq_iff_eq]
  constructor
  · rintro ⟨x, hx, y, hy, rfl⟩; exact ⟨x, hy, x, hx, rfl⟩
  · rintro ⟨x, hx, y, hy, rfl⟩; exact ⟨x, hy, x, hx, rfl⟩

theorem nodup_append_singleton {α : Type} {l : List α} {a : α} : (l ++ [a]).Nodup ↔ l.Nodup ∧ a ∉ l := by
  rw [List.nodup_append_comm, List.singleton_append, List.nodup_cons, and_comm]

theorem getD_replicate_zero (n x : Nat) : (List.replicate n 0)[x]?.getD 0 = 0 := by
  rw [List.getElem?_replicate]; split <;> rfl

theorem snoc_prefix_inj {B H : List Nat} {f g : Nat} (h1 : B ++ [f] <+: H) (h2 : B ++ [g] <+: H) : f = g := by
  simpa using (List.prefix_of_prefix_length_le h1 h2 (by simp)).eq_of_length (by simp)

theorem eq_of_append_prefix {a b i j : List Nat} (hp : (a ++ i) <+: (b ++ j)) (hl : a.length = b.length) :
    a = b := by
  obtain ⟨t, ht⟩ := hp
  rw [List.append_assoc] at ht
  exact (List.append_inj ht hl).1

theorem filterMap_cons_toList {α β : Type} (g : α → Option β) (a : α) (l : List α) :
    (a :: l).filterMap g = (g a).toList ++ l.filterMap g := by
  rw [List.filterMap_cons]; cases g a <;> rfl

/-- lets a proof by evaluation name the value of `o` as `o.getD d`: `o` is evaluated once, not on
    both sides of an equation -/
theorem eq_some_getD_of_isSome {α : Type} {o : Option α} (d : α) (h : o.isSome = true) :
    o = some (o.getD d) := by
  cases o with
  | none => cases h
  | some a => rfl

theorem eq_of_mem_of_length_le_one {α : Type} {l : List α} {a b : α} (h : l.length ≤ 1) (ha : a ∈ l)
    (hb : b ∈ l) : a = b := by
  match l, h, ha, hb with
  | [x], _, ha, hb => rw [List.mem_singleton.mp ha, List.mem_singleton.mp hb]

end FG
