/-
  Proofs/TrackCoupling.lean — the coupling `Cpl` between the state of the real run and the state of the tracking
  monitor.  The two model states settle to the same state modulo `SimC` (the monitor runs internal
  actions in its own order; `Proofs/SimC.lean`), and the monitor invokes in hand-out order as long as the
  real run does.  `Cpl` is kept by every kind of step of an `ObsRun`, with the notes the monitor emits,
  and at the points where the monitor compares: a `q` observation and the return.
-/
import FnGraphVerif.Proofs.FinishCommute
import FnGraphVerif.Proofs.AdvanceUntil
import FnGraphVerif.Proofs.MonitorText
import FnGraphVerif.Proofs.CouplingFacts
namespace FG
variable {x : MonCtx} {s s1 : PState} {t : TrackSt}

structure Cpl (x : MonCtx) (s : PState) (t : TrackSt) : Prop where
  rs : Reachable x.c s
  rt : Reachable x.c t.s
  settled : SimC (settle x.c s) (settle x.c t.s)
  ho : t.s.handedOut = s.handedOut
  infl : t.s.inflight = s.inflight
  /-- `⊆`, not `=`: in `settle` / `advanceUntil` the monitor invokes eagerly, before the `invoke` event arrives -/
  inv : ∀ f ∈ s.invoked, f ∈ t.s.invoked
  /-- the monitor's record of the observed `invoke` events … -/
  rInv : t.realInvoked = s.invoked
  /-- … and of the observed `handout` events -/
  rHo : t.realHandout = s.handedOut
  /-- conditional: a real run need not keep `s.invoked <+: s.handedOut` (closures started out of order), and
      the monitor follows it -/
  fifo : s.invoked <+: s.handedOut → FifoInv t.s

theorem cpl_init (x : MonCtx) : Cpl x (init x.c) { s := init x.c } where
  rs := .init
  rt := .init
  settled := SimC.refl _
  ho := rfl
  infl := rfl
  inv := fun _ h => h
  rInv := rfl
  rHo := rfl
  fifo := fun _ => by simp [FifoInv, init]

/-- `invoked` is at most as long as `handedOut`, so a prefix of a longer hand-out list is one of `handedOut` -/
theorem Inv0.invoked_prefix_of_append {c : Cfg} (hinv : Inv0 c s) {L : List Nat} (h : s.invoked <+: s.handedOut ++ L) :
    s.invoked <+: s.handedOut :=
  List.prefix_of_prefix_length_le h (List.prefix_append _ _)
    (List.Nodup.length_le_of_subset hinv.invNodup hinv.invHanded)

theorem cpl_silent (hx : GoodCtx x) (h : Cpl x s t) {a : Action} (ha : a.internal)
    (hs : step? x.c s a = some s1) (hho : s1.handedOut = s.handedOut) (hin : s1.inflight = s.inflight)
    (hiv : s1.invoked = s.invoked) : Cpl x s1 t where
  rs := Reachable.step _ h.rs hs
  rt := h.rt
  settled := (settle_step hx.good h.rs ha hs).toC.trans h.settled
  ho := by rw [hho]; exact h.ho
  infl := by rw [hin]; exact h.infl
  inv := by rw [hiv]; exact h.inv
  rInv := by rw [hiv]; exact h.rInv
  rHo := by rw [hho]; exact h.rHo
  fifo := by rw [hiv, hho]; exact h.fifo

/-- the settled monitor state has the extra hand-out (`hj1`), so the advance succeeds; it stops after ONE
    hand-out `g'`; `g' = g` because both settle to the same `handedOut` -/
theorem cpl_handout (hx : GoodCtx x) (hcoop : x.coop = false) (h : Cpl x s t)
    (hs : step? x.c s .schedPoll = some s1) {g : Nat} (hho : s1.handedOut = s.handedOut ++ [g])
    (hin : s1.inflight = s.inflight ++ [g]) (hiv : s1.invoked = s.invoked) :
    Cpl x s1 (trackFut x t (.handout g)).1 ∧ ∀ n ∈ (trackFut x t (.handout g)).2, n.ok = true := by
  have hc := hx.good
  have hrs1 : Reachable x.c s1 := Reachable.step _ h.rs hs
  have hsp : Action.schedPoll.internal := CA.act_internal .sp
  have hj1 : SimC (settle x.c s1) (settle x.c t.s) := (settle_step hc h.rs hsp hs).toC.trans h.settled
  have hadv : handoutAdv x t g = advanceUntil x.c
      (fun u => decide (t.s.handedOut.length < u.handedOut.length)) (trackFuel x.c) t.s := by
    unfold handoutAdv; rw [handoutStart_noncoop hcoop]
  have hr2 : (handoutAdv x t g).2 = true := by
    rw [hadv]
    refine advanceUntil_succeeds hc h.rt _ (trackFuel_ge x.c) (decide_eq_true ?_)
    have hp := settle_handedOut_prefix x.c s1
    rw [hj1.handedOut, hho] at hp
    have := hp.length_le
    simp only [List.length_append, List.length_cons, List.length_nil] at this
    rw [h.ho]; omega
  obtain ⟨as0, has0, hrun0⟩ := advanceUntil_run x.c
    (fun u => decide (t.s.handedOut.length < u.handedOut.length)) (trackFuel x.c) t.s
  rw [← hadv] at hrun0
  have hrr : Reachable x.c (handoutAdv x t g).1 := Reachable.of_run h.rt hrun0
  have hj2 : SimC (settle x.c s1) (settle x.c (handoutAdv x t g).1) :=
    hj1.trans (settle_run hc h.rt (fun a ha => Action.internal_iff.mpr (has0 a ha)) hrun0).symm.toC
  obtain ⟨g', hg1, hg2⟩ : ∃ g', (handoutAdv x t g).1.handedOut = t.s.handedOut ++ [g'] ∧
      (handoutAdv x t g).1.inflight = t.s.inflight ++ [g'] := by
    rw [hadv] at hr2 ⊢
    exact advanceUntil_handout_stop _ _ hr2
  have hgg : g' = g := by
    have e := hj2.handedOut
    have p1 := settle_handedOut_prefix x.c s1
    have p2 := settle_handedOut_prefix x.c (handoutAdv x t g).1
    rw [← e, hg1, h.ho] at p2
    rw [hho] at p1
    exact snoc_prefix_inj p2 p1
  subst hgg
  constructor
  · exact {
      rs := hrs1
      rt := hrr
      settled := hj2
      ho := by show (handoutAdv x t g').1.handedOut = _; rw [hg1, hho, h.ho]
      infl := by show (handoutAdv x t g').1.inflight = _; rw [hg2, hin, h.infl]
      inv := by
        intro f hf
        rw [hiv] at hf
        exact (run_invoked_prefix hrun0).subset (h.inv f hf)
      rInv := by show t.realInvoked = _; rw [hiv]; exact h.rInv
      rHo := by show t.realHandout ++ [g'] = _; rw [hho, h.rHo]
      fifo := by
        intro hp
        rw [hiv, hho] at hp
        show FifoInv (handoutAdv x t g').1
        rw [hadv]
        exact fifoInv_advanceUntil hc _ _ h.rt (h.fifo ((inv0_reachable hc h.rs).invoked_prefix_of_append hp)) }
  · intro n hn
    rw [trackFut_handout_notes, hr2] at hn
    simp only [if_true, List.mem_singleton] at hn
    subst hn
    rw [Note.ok_cmp, hg1, List.drop_left, natsText_singleton]

/-- the monitor either has invoked `f` already (eagerly, in `settle`) or invokes it now -/
theorem invokeAdv_cpl (h : Cpl x s t) {f : Nat} (hs : step? x.c s (.invoke f) = some s1) :
    (f ∈ t.s.invoked ∧ invokeAdv x t f = (t.s, true)) ∨
    (f ∉ t.s.invoked ∧ step? x.c t.s (.invoke f) = some { t.s with invoked := t.s.invoked ++ [f] } ∧
      invokeAdv x t f = ({ t.s with invoked := t.s.invoked ++ [f] }, true)) := by
  obtain ⟨hfi, hfn, _⟩ := step_invoke_iff.mp hs
  have hfit : f ∈ t.s.inflight := by rw [h.infl]; exact hfi
  by_cases hA : f ∈ t.s.invoked
  · have hcnt : t.realInvoked.count f < t.s.invoked.count f := by
      rw [h.rInv, List.count_eq_zero.mpr hfn]
      exact List.count_pos_iff.mpr hA
    refine Or.inl ⟨hA, ?_⟩
    unfold invokeAdv
    rw [if_neg (fun hh => hh.2 hA), if_pos ⟨hA, hcnt⟩]
  · have hstep : step? x.c t.s (.invoke f) = some { t.s with invoked := t.s.invoked ++ [f] } :=
      step_invoke_iff.mpr ⟨hfit, hA, rfl⟩
    refine Or.inr ⟨hA, hstep, ?_⟩
    unfold invokeAdv
    rw [if_pos ⟨hfit, hA⟩, hstep]
    rfl

theorem fifo_invoke (hx : GoodCtx x) (h : Cpl x s t) {f : Nat}
    (hs : step? x.c s (.invoke f) = some s1) (hfi : FifoInv t.s)
    (hfifo : s.invoked ++ [f] <+: s.handedOut) : FifoInv (trackFut x t (.invoke f)).1.s := by
  have hc := hx.good
  show FifoInv (invokeAdv x t f).1
  rcases invokeAdv_cpl h hs with ⟨_, hadv⟩ | ⟨hA, hstep, hadv⟩
  · rw [hadv]; exact hfi
  · rw [hadv]
    -- the monitor is not ahead: it has invoked exactly what the real run has
    have hinvS := inv0_reachable hc h.rs
    have hinvT := inv0_reachable hc h.rt
    have hpT : t.s.invoked <+: s.handedOut := h.ho ▸ hfi.invoked_prefix
    have hpS : s.invoked <+: s.handedOut := (List.prefix_append _ _).trans hfifo
    have hlen : t.s.invoked.length ≤ s.invoked.length := by
      by_contra hlt
      have : s.invoked ++ [f] <+: t.s.invoked :=
        List.prefix_of_prefix_length_le hfifo hpT (by simp; omega)
      exact hA (this.subset (by simp))
    have hlen2 : s.invoked.length ≤ t.s.invoked.length :=
      List.Nodup.length_le_of_subset hinvS.invNodup h.inv
    have heq : t.s.invoked = s.invoked := (List.prefix_of_prefix_length_le hpT hpS hlen).eq_of_length_le hlen2
    have hhead : (t.s.inflight.filter (fun g => decide (g ∉ t.s.invoked))).head? = some f := by
      have hfi' := hfi
      unfold FifoInv at hfi'
      rw [h.ho, heq] at hfi'
      rw [hfi'] at hfifo
      have := (List.prefix_append_right_inj _).mp hfifo
      rw [heq]
      cases hU : t.s.inflight.filter (fun g => decide (g ∉ s.invoked)) with
      | nil => rw [hU] at this; simp at this
      | cons u U =>
        rw [hU] at this
        obtain ⟨R, hR⟩ := this
        simp only [List.singleton_append, List.cons.injEq] at hR
        rw [hR.1]; rfl
    exact fifoInv_step hinvT hfi hstep (by
      intro g hg
      simp only [Action.invoke.injEq] at hg
      subst hg
      exact hhead)

theorem cpl_invoke (hx : GoodCtx x) (h : Cpl x s t) {f : Nat}
    (hs : step? x.c s (.invoke f) = some s1) :
    Cpl x s1 (trackFut x t (.invoke f)).1 ∧ ∀ n ∈ (trackFut x t (.invoke f)).2, n.ok = true := by
  have hc := hx.good
  obtain ⟨_, _, hs1⟩ := step_invoke_iff.mp hs
  have hrs1 : Reachable x.c s1 := Reachable.step _ h.rs hs
  have hsim1 : Sim s1 s := by rw [hs1]; rfl
  -- the monitor's state after the event: `t.s`, or `t.s` with `f` invoked now
  obtain ⟨T, hadv, hrT, hsimT, hsub, hfT⟩ : ∃ T, invokeAdv x t f = (T, true) ∧ Reachable x.c T ∧ Sim t.s T ∧
      (∀ g ∈ t.s.invoked, g ∈ T.invoked) ∧ f ∈ T.invoked := by
    rcases invokeAdv_cpl h hs with ⟨hA, hadv⟩ | ⟨_, hstep, hadv⟩
    · exact ⟨_, hadv, h.rt, Sim.refl _, fun _ hg => hg, hA⟩
    · exact ⟨_, hadv, Reachable.step _ h.rt hstep, rfl, fun _ hg => List.mem_append_left _ hg,
        List.mem_append_right _ (List.mem_singleton.mpr rfl)⟩
  have hho : t.s.handedOut = T.handedOut := hsimT.toC.handedOut
  have hinf : t.s.inflight = T.inflight := hsimT.toC.inflight
  have hstate := congrArg Prod.fst (trackFut_invoke x t f)
  have hnotes := congrArg Prod.snd (trackFut_invoke x t f)
  constructor
  · rw [hstate, hadv]
    exact {
      rs := hrs1
      rt := hrT
      settled := (settle_simC hc hrs1 h.rs hsim1.toC).trans (h.settled.trans (settle_simC hc h.rt hrT hsimT.toC))
      ho := by show T.handedOut = _; rw [hs1, ← hho]; exact h.ho
      infl := by show T.inflight = _; rw [hs1, ← hinf]; exact h.infl
      inv := by
        intro g hg
        rw [hs1] at hg
        rcases List.mem_append.mp hg with hg | hg
        · exact hsub g (h.inv g hg)
        · rw [List.mem_singleton.mp hg]; exact hfT
      rInv := by show t.realInvoked ++ [f] = _; rw [hs1, h.rInv]
      rHo := by show t.realHandout = _; rw [hs1]; exact h.rHo
      fifo := by
        intro hp
        have hp' : s.invoked ++ [f] <+: s.handedOut := by rw [hs1] at hp; exact hp
        have := fifo_invoke hx h hs (h.fifo ((List.prefix_append _ _).trans hp')) hp'
        rw [hstate, hadv] at this
        exact this }
  · intro n hn
    rw [hnotes, hadv] at hn
    rw [List.mem_singleton.mp hn]
    rfl

theorem trackFut_fin_cpl (h : Cpl x s t) {f : Nat} {ok : Bool} (hs : step? x.c s (.finish f ok) = some s1) :
    step? x.c t.s (.finish f ok) = some (finW x.c t.s f ok) ∧
    trackFut x t (.fin f ok) =
      ({ t with s := finW x.c t.s f ok }, [.cmp "R-step" (Ev.fin f ok).text "enabled" "enabled"]) := by
  obtain ⟨hfi, hfv, _⟩ := (step_finish_iff.mp hs).1
  have hfvt : f ∈ t.s.invoked := h.inv f hfv
  have hstart : finStart x t f = t.s := by unfold finStart; rw [if_pos hfvt]
  have hstep := step_finish_congr (t := t.s) hs (h.infl ▸ hfi) hfvt
  exact ⟨hstep, by rw [trackFut_fin, hstart, hstep]⟩

theorem cpl_finish (hx : GoodCtx x) (h : Cpl x s t) {f : Nat} {ok : Bool}
    (hs : step? x.c s (.finish f ok) = some s1) :
    Cpl x s1 (trackFut x t (.fin f ok)).1 ∧ ∀ n ∈ (trackFut x t (.fin f ok)).2, n.ok = true := by
  obtain ⟨hstep, htf⟩ := trackFut_fin_cpl h hs
  rw [htf]
  constructor
  · -- `finW` erases `f` from `inflight` and leaves `handedOut`, `invoked` alone, on both sides
    cases (step_finish_iff.mp hs).2
    exact {
      rs := Reachable.step _ h.rs hs
      rt := Reachable.step _ h.rt hstep
      settled := settle_finish hx.good hx.api h.rs h.rt h.settled hs hstep
      ho := h.ho
      infl := congrArg (List.erase · f) h.infl
      inv := h.inv
      rInv := h.rInv
      rHo := h.rHo
      fifo := fun hp => fifoInv_step (inv0_reachable hx.good h.rt) (h.fifo hp) hstep (by intro g hg; cases hg) }
  · intro n hn
    rw [List.mem_singleton.mp hn]
    rfl

theorem cpl_interrupt_of (h : Cpl x s t) (hj : SimC (settle x.c (intrSt s)) (settle x.c (intrSt t.s))) :
    Cpl x (intrSt s) (trackFut x t .intr).1 ∧ ∀ n ∈ (trackFut x t .intr).2, n.ok = true := by
  rw [trackFut_intr]
  constructor
  · exact {
      rs := Reachable.step .interrupt h.rs rfl
      rt := Reachable.step .interrupt h.rt rfl
      settled := hj
      ho := h.ho
      infl := h.infl
      inv := h.inv
      rInv := h.rInv
      rHo := h.rHo
      fifo := h.fifo }
  · intro n hn; cases hn

/-- `NonInterruptible`: the signal is never looked at, it may arrive at any time -/
theorem cpl_interrupt_non (hx : GoodCtx x) (hst : x.c.strat = .non) (h : Cpl x s t) :
    Cpl x (intrSt s) (trackFut x t .intr).1 ∧ ∀ n ∈ (trackFut x t .intr).2, n.ok = true :=
  cpl_interrupt_of h (settle_interrupt_non hx.good hst h.rs h.rt h.settled)

/-- any strategy: the signal arrives while the real state and the monitor state are `SimC`-equal
    (directly after a `q` observation, or before anything else has happened) -/
theorem cpl_interrupt_sync (hx : GoodCtx x) (h : Cpl x s t) (hsim : SimC s t.s) :
    Cpl x (intrSt s) (trackFut x t .intr).1 ∧ ∀ n ∈ (trackFut x t .intr).2, n.ok = true :=
  cpl_interrupt_of h (settle_simC hx.good (Reachable.step .interrupt h.rs rfl) (Reachable.step .interrupt h.rt rfl)
    (simC_intr hsim))

theorem cpl_settled (hx : GoodCtx x) (h : Cpl x s t) (hsim : SimC s (settle x.c t.s)) :
    Cpl x s { t with s := settle x.c t.s } where
  rs := h.rs
  rt := settleN_reachable _ h.rt
  settled := by rw [settle_of_quiescent (settle_quiescent_of_inv hx.good (inv0_reachable hx.good h.rt))]; exact h.settled
  ho := hsim.handedOut.symm
  infl := hsim.inflight.symm
  inv := fun f hf => (settle_invoked_prefix x.c t.s).subset (h.inv f hf)
  rInv := h.rInv
  rHo := h.rHo
  fifo := fun hp => fifoInv_settleN hx.good _ h.rt (h.fifo hp)

theorem quiescent_invoked_eq {c : Cfg} (hc : GoodCfg c) (hr : Reachable c s) (hq : Quiescent c s)
    (hres : s.result = none) (hfifo : s.invoked <+: s.handedOut) : s.invoked = s.handedOut := by
  have hinv := inv0_reachable hc hr
  have hall := quiescent_invoke_quiet hq hres
  refine hfifo.eq_of_length_le (hinv.handedOut_nodup.length_le_of_subset fun f hf => ?_)
  rcases hinv.handedSplit f hf with h1 | h1 | h1
  · exact hall f h1
  · exact hinv.endedInvoked f (Or.inl h1)
  · exact hinv.endedInvoked f (Or.inr h1)

/-- the one note whose agreement needs closures to be started in hand-out order -/
def Note.isQInvoked : Note → Prop
  | .cmp f w _ _ => f = "R-quiesce" ∧ w = Ev.q.text ++ " invoked"
  | _ => False

theorem cpl_q (hx : GoodCtx x) (h : Cpl x s t) (hq : Quiescent x.c s) (hres : s.result = none) :
    Cpl x s (trackFut x t .q).1 ∧ SimC s (trackFut x t .q).1.s ∧
    ∀ n ∈ (trackFut x t .q).2,
      (s.invoked <+: s.handedOut → n.ok = true) ∧ (n.ok = true ∨ n.isQInvoked) := by
  have hc := hx.good
  -- at rest the real state is its own settled state
  have hsim : SimC s (settle x.c t.s) := by have := h.settled; rwa [settle_of_quiescent hq] at this
  have hcpl := cpl_settled hx h hsim
  have hres' : (settle x.c t.s).result = none := by rw [← hsim.result]; exact hres
  have hpan : (settle x.c t.s).panic = false := (settleN_reachable _ h.rt).noPanic hc
  have hho : (settle x.c t.s).handedOut = t.realHandout := by rw [← hsim.handedOut, h.rHo]
  have hinvk : s.invoked <+: s.handedOut → (settle x.c t.s).invoked = t.realInvoked := by
    intro hfifo
    have hfs : FifoInv (settle x.c t.s) := hcpl.fifo hfifo
    rw [quiescent_invoked_eq hc (s := settle x.c t.s) (settleN_reachable _ h.rt)
      (settle_quiescent_of_inv hc (inv0_reachable hc h.rt)) hres'
      hfs.invoked_prefix, hho, h.rHo, h.rInv]
    exact (quiescent_invoked_eq hc h.rs hq hres hfifo).symm
  rw [trackFut_q_notes]
  refine ⟨hcpl, hsim, ?_⟩
  have ok_all : ∀ n : Note, n.ok = true →
      (s.invoked <+: s.handedOut → n.ok = true) ∧ (n.ok = true ∨ n.isQInvoked) :=
    fun n hn => ⟨fun _ => hn, Or.inl hn⟩
  intro n hn
  simp only [List.mem_append, List.mem_cons, List.not_mem_nil, or_false] at hn
  rcases hn with ((hn | hn) | hn) | hn
  · subst hn; apply ok_all; rw [Note.ok_cmp, hres']; rfl
  · subst hn
    exact ⟨fun hf => by rw [Note.ok_cmp, hinvk hf], Or.inr ⟨rfl, rfl⟩⟩
  · by_cases hb : (t.sawHandoutHook || t.realInvoked.isEmpty) = true
    · rw [if_pos hb] at hn
      simp only [List.mem_singleton] at hn
      subst hn; apply ok_all; rw [Note.ok_cmp, hho]
    · rw [if_neg hb] at hn
      exact absurd hn List.not_mem_nil
  · subst hn; apply ok_all; rw [Note.ok_cmp, hpan]; rfl

theorem cpl_ret (hx : GoodCtx x) (h : Cpl x s t) (hs : step? x.c s .ret = some s1) :
    ∃ e, stepEvents x.c x.control s .ret s1 = [e] ∧ e ≠ .intr ∧ e ≠ .q ∧
      Cpl x s1 (trackFut x t e).1 ∧ ∀ n ∈ (trackFut x t e).2, n.ok = true := by
  have hc := hx.good
  obtain ⟨_, _, _, hs1⟩ := step_ret_iff.mp hs
  have hrs1 : Reachable x.c s1 := Reachable.step _ h.rs hs
  have hr1 : s1.result = some (mkRet x.c s) := by rw [hs1]
  have hret : Action.ret.internal := CA.act_internal .rt
  have hcpl1 : Cpl x s1 t := cpl_silent hx h hret hs (by rw [hs1]) (by rw [hs1]) (by rw [hs1])
  have hsim : SimC s1 (settle x.c t.s) := by
    have := hcpl1.settled
    rwa [settle_of_quiescent (quiescent_of_result (by rw [hr1]; rfl))] at this
  have hcpl := cpl_settled hx hcpl1 hsim
  have hres' : (settle x.c t.s).result = some (mkRet x.c s) := by rw [← hsim.result]; exact hr1
  generalize mkRet x.c s = r at hr1 hres'
  cases r with
  | outcome fnd p np errs =>
    refine ⟨_, stepEvents_ret_outcome hr1, by simp, by simp, hcpl, ?_⟩
    intro n hn
    rw [List.mem_singleton.mp hn, Note.ok_cmp, hres']
    rfl
  | err f =>
    refine ⟨_, stepEvents_ret_err hr1, by simp, by simp, hcpl, ?_⟩
    intro n hn
    rw [List.mem_singleton.mp hn, Note.ok_cmp, hres']
    rfl

end FG
