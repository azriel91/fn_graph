/-
  Interruption bounds (C08).  `InterruptibleStream` is analysed alone first (for EVERY sequence of
  signal arrivals and underlying-stream answers), then composed with the run protocol and with the
  `stream*_interruptible` poll model.
-/
import FnGraphVerif.Proofs.IntrDrive
import FnGraphVerif.Proofs.RunBase
namespace FG

/-- **C08** `FinishCurrent` / `PollNextN(0)`: after the signal no plain item, at most one
    `Interrupted(Some _)` item — and none at all when the signal was already pending at the start -/
theorem finish_bound (st : Strat) (hst : st = .finish ∨ st = .pollN 0) (evs : List IEv) :
    (irun st evs).yN = 0 ∧ (irun st evs).yI ≤ 1 ∧
    (irun st (.signal :: evs)).yN = 0 ∧ (irun st (.signal :: evs)).yI = 0 := by
  have hl := Strat.lim_zero hst
  have h1 : (irun st evs).yN ≤ 0 :=
    (potN hl).ifold IG.yN (fun _ => rfl) (fun _ _ => rfl) evs {} (within_pristine pristine_init (Nat.le_refl 0))
  have h2 : (irun st evs).yN + (irun st evs).yI ≤ 1 :=
    (potItem hl).ifold (fun g => g.yN + g.yI) (fun _ => rfl) (istep_poll_sum st) evs {}
      (within_pristine pristine_init (Nat.le_refl 1))
  have h3 : (irun st (.signal :: evs)).yN + (irun st (.signal :: evs)).yI ≤ 0 :=
    (potItem hl).ifold (fun g => g.yN + g.yI) (fun _ => rfl) (istep_poll_sum st) evs
      (istep st {} .signal) (within_sent (Or.inr rfl) (Nat.le_refl 0))
  exact ⟨Nat.le_zero.mp h1, by omega, by omega, by omega⟩

/-- non-vacuity: the signal arrives while the underlying stream is `Pending`; the one item that was
    being waited for is handed on as `Interrupted(Some _)`, nothing after it -/
example : (irun .finish [.poll .item, .poll .pending, .signal, .poll .pending, .poll .item,
    .poll .item]).outs = [.noInt, .pending, .pending, .intSome, .endd] := by decide
example : (irun .finish [.poll .item, .poll .pending, .signal, .poll .pending, .poll .item,
    .poll .item]).yI = 1 := by decide
example : (irun (.pollN 0) [.poll .pending, .signal, .poll .item, .poll .item]).yI = 1 := by decide
example : (irun .finish [.signal, .poll .item, .poll .item]).outs = [.intNone, .endd] := by decide

/-- **C08** `PollNextN(n)`, `n ≥ 1`: at most `n` items after the signal (also when pre-signalled) -/
theorem pollN_bound (n : Nat) (hn : 1 ≤ n) (evs : List IEv) :
    (irun (.pollN n) evs).yN + (irun (.pollN n) evs).yI ≤ n :=
  (potItem (st := .pollN n) rfl).ifold (fun g => g.yN + g.yI) (fun _ => rfl) (istep_poll_sum _)
    evs {} (within_pristine pristine_init (Nat.max_le.mpr ⟨Nat.le_refl n, hn⟩))

/-- non-vacuity: the bound is attained, both pre-signalled and signalled while `Pending` -/
example : (irun (.pollN 2) [.signal, .poll .item, .poll .item, .poll .item]).outs
    = [.noInt, .noInt, .intNone] := by decide
example : (irun (.pollN 2) [.signal, .poll .item, .poll .item, .poll .item]).yN = 2 := by decide
example : (irun (.pollN 2) [.poll .pending, .signal, .poll .pending, .poll .item, .poll .item,
    .poll .item]).outs = [.pending, .pending, .noInt, .noInt, .intNone] := by decide
example : (irun (.pollN 2) [.poll .pending, .signal, .poll .pending, .poll .item, .poll .item,
    .poll .item]).yN + (irun (.pollN 2) [.poll .pending, .signal, .poll .pending, .poll .item,
    .poll .item, .poll .item]).yI = 2 := by decide

/-- **C08**: after an `Interrupted(..)` answer the stream only ever answers end-of-stream -/
theorem ends_after_interrupted (st : Strat) (evs : List IEv) (i j : Nat) (hij : i < j)
    (hi : (irun st evs).outs[i]? = some .intSome ∨ (irun st evs).outs[i]? = some .intNone)
    (o : Out) (hj : (irun st evs).outs[j]? = some o) : o = .endd := by
  have h : EndsInv (irun st evs) :=
    ifold_inv st EndsInv (endsInv_step st) evs {} ⟨by simp, List.Pairwise.nil⟩
  obtain ⟨hj', rfl⟩ := List.getElem?_eq_some_iff.mp hj
  have hi' : ∃ hi' : i < (irun st evs).outs.length, (irun st evs).outs[i].isIntr = true := by
    rcases hi with hi | hi <;> obtain ⟨h', e⟩ := List.getElem?_eq_some_iff.mp hi <;>
      exact ⟨h', by rw [e]; rfl⟩
  obtain ⟨hi', hint⟩ := hi'
  exact List.pairwise_iff_getElem.mp h.2 i j hi' hj' hij hint

/-- non-vacuity: an `Interrupted(..)` answer does occur and is followed by further answers -/
example : (irun .finish [.signal, .poll .item, .poll .item, .poll .pending]).outs
    = [.intNone, .endd, .endd] := by decide
example : (irun (.pollN 1) [.poll .pending, .signal, .poll .item, .poll .item, .poll .item]).outs
    = [.pending, .noInt, .intNone, .endd] := by decide

/-- **C08** `NonInterruptible` / `IgnoreInterruptions`: the wrapper is transparent whatever signals arrive -/
theorem noninterrupting_transparent (st : Strat) (hst : st = .non ∨ st = .ignore) (evs : List IEv) (u : Under) :
    (pollNext st (irun st evs).m u).2 = (match u with | .item => .noInt | .none => .endd | .pending => .pending) := by
  have h : (irun st evs).m.sig = false ∧ (irun st evs).m.ian = false :=
    (ghostTransparent hst (fun _ => false)).ifold (fun _ => 0) (fun _ => rfl) (fun g u => by simp)
      evs {} ⟨rfl, rfl⟩
  rw [(pollNext_transparent hst h.1 h.2 u).2.2]
  cases u <;> rfl

/-- non-vacuity: signals do arrive, and the answers are the underlying ones -/
example : (irun .ignore [.signal, .poll .item, .poll .pending, .signal, .poll .item,
    .poll .none]).outs = [.noInt, .pending, .noInt, .endd] := by decide
example : (irun .non [.signal, .poll .item, .poll .pending, .signal, .poll .item,
    .poll .none]).outs = [.noInt, .pending, .noInt, .endd] := by decide

/-- example configurations for the non-vacuity checks: a chain `0 → 1 → 2`, and three roots
    `0, 1, 2` with `0 → 3` -/
def exChain_H (st : Strat) (incl : Bool) : Cfg :=
  { D := { n := 3, edges := [⟨0, 1, .logic⟩, ⟨1, 2, .logic⟩] }, counts0 := [0, 1, 1],
    strat := st, incl := incl }
def exWide_H (st : Strat) (incl : Bool) : Cfg :=
  { D := { n := 4, edges := [⟨0, 3, .logic⟩] }, counts0 := [0, 0, 0, 1], strat := st, incl := incl }

/-- **C08**: every schedule, every interrupt point: at most `intrBound` hand-outs after the signal -/
theorem handouts_after_interrupt_le (c : Cfg) (hst : c.strat = .finish ∨ ∃ k, c.strat = .pollN k)
    (as : List Action) : handoutsAfterIntr c (init c) false as ≤ intrBound c.strat c.incl := by
  rw [handoutsAfterIntr_eq]
  exact (drives_proto c).after_interrupt_le hst pristine_init as

/-- non-vacuity: the bounds are attained.  `FinishCurrent`: the signal arrives while the ready
    stream is `Pending`; function 1 is still handed out (as `Interrupted(Some 1)`), 2 never is.
    `PollNextN(2)`: two more hand-outs after the signal. -/
example : handoutsAfterIntr (exChain_H .finish true) (init (exChain_H .finish true)) false
    [.schedPoll, .schedPoll, .interrupt, .invoke 0, .finish 0 true, .queuerRecv, .schedPoll,
     .invoke 1, .finish 1 true, .queuerRecv, .queuerEnd, .schedPoll, .schedEnd, .ret] = 1 := by
  decide
example : handoutsAfterIntr (exChain_H .finish false) (init (exChain_H .finish false)) false
    [.schedPoll, .schedPoll, .interrupt, .invoke 0, .finish 0 true, .queuerRecv, .schedPoll] = 0 := by
  decide
example : handoutsAfterIntr (exWide_H (.pollN 2) true) (init (exWide_H (.pollN 2) true)) false
    [.schedPoll, .interrupt, .schedPoll, .schedPoll, .schedPoll] = 2 := by decide

theorem neverRaised_step {c : Cfg} (hst : c.strat = .non ∨ c.strat = .ignore) {s s' : PState} {a : Action}
    (hi : s.im.sig = false ∧ s.im.ian = false ∧ s.dropped = none ∧ s.closeAfter = none)
    (h : step? c s a = some s') :
    s'.im.sig = false ∧ s'.im.ian = false ∧ s'.dropped = none ∧ s'.closeAfter = none := by
  obtain ⟨i1, i2, i3, i4⟩ := hi
  obtain ⟨d1, d2⟩ := step_dropped h (fun _ => by
    rw [(pollNext_transparent hst i1 i2 _).2.2]; exact transparentOut_ne_intSome _)
  obtain ⟨g1, g2⟩ := (drives_proto c).ghost_step (ghostTransparent hst _) (es := false) (y := 0) h ⟨i1, i2⟩
  exact ⟨g1, g2, d1.trans i3, d2.trans i4⟩

/-- **C08** `NonInterruptible` / `IgnoreInterruptions`: a signal never interrupts -/
theorem noninterrupting_run (c : Cfg) (hst : c.strat = .non ∨ c.strat = .ignore) {s : PState}
    (hr : Reachable c s) :
    s.im.sig = false ∧ s.im.ian = false ∧ s.dropped = none ∧ s.closeAfter = none :=
  hr.invariant (P := fun s => s.im.sig = false ∧ s.im.ian = false ∧ s.dropped = none ∧ s.closeAfter = none)
    (neverRaised_step hst) (by simp [init])

/-- non-vacuity: a reachable state in which two signals were sent, one of them received, and all
    roots were handed out regardless -/
example : (run (exWide_H .ignore true) (init (exWide_H .ignore true))
    [.interrupt, .schedPoll, .schedPoll, .interrupt, .schedPoll]).map
      (fun s => (s.im.recv, s.im.sent, s.handedOut)) = some (true, true, [2, 1, 0]) := by decide
example (s : PState) (h : run (exWide_H .ignore true) (init (exWide_H .ignore true))
    [.interrupt, .schedPoll, .schedPoll, .interrupt, .schedPoll] = some s) :
    s.im.sig = false ∧ s.im.ian = false ∧ s.dropped = none ∧ s.closeAfter = none :=
  noninterrupting_run _ (Or.inr rfl) (Reachable.init.of_run h)

/-- **C08** (interruptible streams): items yielded after the signal obey the same bounds, counting
    the `Interrupted(Some _)` item, whatever the include flag -/
theorem stream_yields_after_interrupt_le (c : Cfg) (hst : c.strat = .finish ∨ ∃ k, c.strat = .pollN k)
    (as : List SAction) : yieldsAfterIntr c (sinit c) false as ≤ intrBound c.strat true := by
  rw [yieldsAfterIntr_eq]
  exact (drives_stream c true).after_interrupt_le hst pristine_init as

/-- non-vacuity: the bounds are attained (`FinishCurrent`: the `Interrupted(Some 1)` item) -/
example : yieldsAfterIntr (exChain_H .finish true) (sinit (exChain_H .finish true)) false
    [.poll, .poll, .interrupt, .drop 0, .poll, .poll, .poll] = 1 := by decide
example : yieldsAfterIntr (exWide_H (.pollN 2) false) (sinit (exWide_H (.pollN 2) false)) false
    [.poll, .interrupt, .poll, .poll, .poll] = 2 := by decide

end FG
