/-
  Interruption (C08) and the outcome (C09): hand-outs versus closure invocations after an interrupt
  (DESIGN 7.4; the counters are in `Proofs/InvokeCount.lean`), for every configuration and in the
  sequential (`fold*`) case; started functions are completed and reported as processed;
  `NonInterruptible` / `IgnoreInterruptions` schedules with and without their `interrupt` actions.
-/
import FnGraphVerif.Theorems.C08
import FnGraphVerif.Proofs.InvokeCount
import FnGraphVerif.Proofs.SettleStep
import FnGraphVerif.Proofs.IntrDelete
import FnGraphVerif.Theorems.RunSafety
namespace FG

/-- **C08 / DESIGN 7.4**: every schedule, every interrupt point: the closures invoked after the
    signal are at most the `intrBound` functions handed out after it plus the functions that were
    handed out but not yet invoked when the signal was sent. -/
theorem invokes_after_interrupt_le (c : Cfg) (hst : c.strat = .finish ∨ ∃ k, c.strat = .pollN k)
    (as : List Action) :
    invokesAfterIntr c (init c) false as ≤ intrBound c.strat c.incl + pendingAtIntr c (init c) as := by
  have h1 : _ ≤ _ + pendingAtIntr c (init c) as := invokes_le_handouts c as (init c) false
  have h2 := handouts_after_interrupt_le c hst as
  omega

/-- the finer form: invocations after the signal ≤ hand-outs after the signal + pending at the signal
    (any strategy) -/
theorem invokes_after_interrupt_le_handouts (c : Cfg) (as : List Action) :
    invokesAfterIntr c (init c) false as ≤
      handoutsAfterIntr c (init c) false as + pendingAtIntr c (init c) as :=
  invokes_le_handouts c as (init c) false

/-- `invokesAfterIntr` counts the growth of `invoked` after the signal (the style of
    `handoutsAfterIntr`) -/
theorem invokesAfterIntr_eq_growth (c : Cfg) (as : List Action) :
    invokesAfterIntr c (init c) false as = invokedGrowthAfterIntr c (init c) false as :=
  (invokedGrowth_eq c as (init c) false).symm

/-- non-vacuity, and the bound is attained by a concurrent run: three roots are handed out, the
    ready stream is `Pending`, the signal arrives (3 pending), function 0 completes and releases 3,
    which `FinishCurrent` still hands out as `Interrupted(Some 3)`: 4 = 1 + 3 invocations. -/
def exTrace_N : List Action :=
  [.schedPoll, .schedPoll, .schedPoll, .schedPoll, .interrupt, .invoke 0, .finish 0 true,
   .queuerRecv, .schedPoll, .invoke 3, .invoke 1, .invoke 2]

example : (run (exWide_H .finish true) (init (exWide_H .finish true)) exTrace_N).map
    (fun s => (s.handedOut, s.invoked)) = some ([2, 1, 0, 3], [0, 3, 1, 2]) := by decide
example : invokesAfterIntr (exWide_H .finish true) (init (exWide_H .finish true)) false exTrace_N = 4
    ∧ pendingAtIntr (exWide_H .finish true) (init (exWide_H .finish true)) exTrace_N = 3
    ∧ intrBound (exWide_H .finish true).strat (exWide_H .finish true).incl = 1 := by decide
example : invokesAfterIntr (exWide_H .finish true) (init (exWide_H .finish true)) false exTrace_N ≤
    intrBound (exWide_H .finish true).strat (exWide_H .finish true).incl +
      pendingAtIntr (exWide_H .finish true) (init (exWide_H .finish true)) exTrace_N :=
  invokes_after_interrupt_le _ (Or.inl rfl) _

/-- `pendingInvoke` is defined through `inflight`; under `GoodCfg` it counts the handed-out, not
    yet invoked functions -/
theorem pendingInvoke_eq_handedOut {c : Cfg} {s : PState} (hc : GoodCfg c) (hr : Reachable c s) :
    pendingInvoke s = (s.handedOut.filter (fun f => decide (f ∉ s.invoked))).length := by
  have hinv := inv0_reachable hc hr
  have hhn : s.handedOut.Nodup := by
    have := (List.nodup_append.mp hinv.queueNodup).1
    exact (List.nodup_append.mp this).2.1
  unfold pendingInvoke
  apply List.Perm.length_eq
  rw [List.perm_ext_iff_of_nodup (hinv.inflNodup.filter _) (hhn.filter _)]
  intro f
  simp only [List.mem_filter, decide_eq_true_eq]
  constructor
  · rintro ⟨h1, h2⟩
    exact ⟨hinv.inflHanded f h1, h2⟩
  · rintro ⟨h1, h2⟩
    rcases hinv.handedSplit f h1 with h | h
    · exact ⟨h, h2⟩
    · exact absurd (hinv.endedInvoked f h) h2

theorem pendingAtIntr_eq_zero (c : Cfg) (pre rest : List Action) (s : PState)
    (hpre : ∀ a ∈ pre, a ≠ Action.interrupt) (hr : run c (init c) pre = some s)
    (hq : ∀ f ∈ s.inflight, f ∈ s.invoked) :
    pendingAtIntr c (init c) (pre ++ .interrupt :: rest) = 0 := by
  rw [pendingAtIntr_eq c pre rest (init c) s hpre hr]
  exact (pendingInvoke_eq_zero_iff s).mpr hq

/-- whichever state the first interrupt finds -/
theorem pendingAtIntr_eq_zero' (c : Cfg) (as : List Action)
    (hq : ∀ pre rest s, as = pre ++ .interrupt :: rest → (∀ a ∈ pre, a ≠ Action.interrupt) →
      run c (init c) pre = some s → ∀ f ∈ s.inflight, f ∈ s.invoked) :
    pendingAtIntr c (init c) as = 0 := by
  rcases pendingAtIntr_cases c as (init c) with h | ⟨pre, rest, s, e, hp, hr⟩
  · exact h
  · rw [e]; exact pendingAtIntr_eq_zero c pre rest s hp hr (hq pre rest s e hp hr)

theorem quiescent_invoke_quiet_reachable {c : Cfg} {s : PState} (hc : GoodCfg c) (hapi : c.ApiOk)
    (hr : Reachable c s) (hq : Quiescent c s) : ∀ f ∈ s.inflight, f ∈ s.invoked := by
  cases hres : s.result with
  | none => exact quiescent_invoke_quiet hq hres
  | some r =>
    have := return_no_inflight hc hapi hr (by rw [hres]; rfl)
    intro f hf; rw [this] at hf; cases hf

/-- the side condition is needed: the non-API configuration `cxCfg_F` (short-circuiting, not
    sequential) returns while function 0 is handed out and not invoked; that state is `Quiescent` -/
example : (run cxCfg_F (init cxCfg_F)
    [.schedPoll, .schedPoll, .invoke 1, .finish 1 false, .queuerEnd, .ret]).map
      (fun s => (decide (Quiescent cxCfg_F s), pendingInvoke s)) = some (true, 1) := by decide

/-- **nothing pending** when the first interrupt finds a `Quiescent` state (the single-task
    executor of `Model/Settle.lean` invokes a closure right after its hand-out) -/
theorem pendingAtIntr_eq_zero_of_quiescent {c : Cfg} (hc : GoodCfg c) (hapi : c.ApiOk)
    (pre rest : List Action) (s : PState) (hpre : ∀ a ∈ pre, a ≠ Action.interrupt)
    (hr : run c (init c) pre = some s) (hq : Quiescent c s) :
    pendingAtIntr c (init c) (pre ++ .interrupt :: rest) = 0 :=
  pendingAtIntr_eq_zero c pre rest s hpre hr
    (quiescent_invoke_quiet_reachable hc hapi (Reachable.init.of_run hr) hq)

/-- without `GoodCfg` / `ApiOk`, for a call that has not returned -/
theorem pendingAtIntr_eq_zero_of_quiescent' (c : Cfg)
    (pre rest : List Action) (s : PState) (hpre : ∀ a ∈ pre, a ≠ Action.interrupt)
    (hr : run c (init c) pre = some s) (hq : Quiescent c s) (hres : s.result = none) :
    pendingAtIntr c (init c) (pre ++ .interrupt :: rest) = 0 :=
  pendingAtIntr_eq_zero c pre rest s hpre hr (quiescent_invoke_quiet hq hres)

/-- non-vacuity: the chain `0 → 1 → 2`; the signal finds a quiescent state (function 0 invoked,
    ready stream `Pending`); exactly the one `Interrupted(Some 1)` function is invoked afterwards -/
example : (run (exChain_H .finish true) (init (exChain_H .finish true))
    [.schedPoll, .invoke 0, .schedPoll]).map (fun s => decide (Quiescent (exChain_H .finish true) s))
      = some true := by decide
example : pendingAtIntr (exChain_H .finish true) (init (exChain_H .finish true))
    ([.schedPoll, .invoke 0, .schedPoll] ++ .interrupt ::
      [.finish 0 true, .queuerRecv, .schedPoll, .invoke 1, .finish 1 true, .queuerRecv, .schedPoll]) = 0
    ∧ invokesAfterIntr (exChain_H .finish true) (init (exChain_H .finish true)) false
    ([.schedPoll, .invoke 0, .schedPoll] ++ .interrupt ::
      [.finish 0 true, .queuerRecv, .schedPoll, .invoke 1, .finish 1 true, .queuerRecv, .schedPoll]) = 1 := by
  decide

/-- C08 in terms of states: a run from `init` whose first `interrupt` is sent at `sI`, where every
    handed-out function has been started, starts at most `intrBound` functions after `sI` -/
theorem starts_after_first_interrupt_le (c : Cfg) (hst : c.strat = .finish ∨ ∃ k, c.strat = .pollN k)
    {pre rest : List Action} {sI sF : PState} (hpre : ∀ a ∈ pre, a ≠ Action.interrupt)
    (hI : run c (init c) pre = some sI) (hq : ∀ f ∈ sI.inflight, f ∈ sI.invoked)
    (hF : run c (init c) (pre ++ .interrupt :: rest) = some sF) :
    sF.invoked.length - sI.invoked.length ≤ intrBound c.strat c.incl := by
  have hg := invoked_growth_split hpre hI (run_append_of hI ▸ hF)
  -- nothing pending at `sI`: the bound on the hand-outs holds of the invocations
  have h1 := invokes_after_interrupt_le c hst (pre ++ .interrupt :: rest)
  rw [pendingAtIntr_eq_zero c pre rest sI hpre hI hq] at h1
  omega

/-! ### the sequential case (`fold*`, `try_fold*`)

  What is true OF THE MODEL: `interrupt` may be scheduled between the `schedPoll` that hands a
  function out and its `invoke`, so `pendingAtIntr` can be 1 (never more).  In the crate the
  hand-out and the closure call are one step of the `fold` future; the point where the signal
  can be *received* is a poll of the interruptible ready stream, i.e. a `schedPoll`, and there
  nothing is pending (`seq_no_pending_at_receive`).
  Tightest bounds, all attained (examples below):
  * `PollNextN(k+1)`:  `invokesAfterIntr ≤ (k+1) + pendingAtIntr ≤ k + 2`;
  * `FinishCurrent` / `PollNextN(0)`:  `handoutsAfterIntr + pendingAtIntr ≤ 1`, hence
    `invokesAfterIntr ≤ max intrBound pendingAtIntr ≤ 1` — a pending function and an
    `Interrupted(Some _)` hand-out exclude each other. -/

/-- a sequential run never has more than one handed-out-uninvoked function -/
theorem seq_pending_le_one {c : Cfg} {s : PState} (hseq : c.sequential = true) (hr : Reachable c s) :
    pendingInvoke s ≤ 1 ∧ s.inflight.length ≤ 1 :=
  ⟨(seqI_reachable hseq hr).pending_le_one, (seqI_reachable hseq hr).len⟩

theorem seq_pendingAtIntr_le_one (c : Cfg) (hseq : c.sequential = true) (as : List Action) :
    pendingAtIntr c (init c) as ≤ 1 := by
  rcases pendingAtIntr_cases c as (init c) with h | ⟨pre, rest, s, e, hp, hr⟩
  · omega
  · rw [e, pendingAtIntr_eq c pre rest _ s hp hr]
    exact (seqI_reachable hseq (Reachable.init.of_run hr)).pending_le_one

/-- sequential, any interrupting strategy -/
theorem seq_invokes_after_interrupt_le (c : Cfg) (hseq : c.sequential = true)
    (hst : c.strat = .finish ∨ ∃ k, c.strat = .pollN k) (as : List Action) :
    invokesAfterIntr c (init c) false as ≤ intrBound c.strat c.incl + 1 := by
  have h1 := invokes_after_interrupt_le c hst as
  have h2 := seq_pendingAtIntr_le_one c hseq as
  omega

/-- sequential `FinishCurrent` / `PollNextN(0)`: a function pending at the signal and a hand-out
    after the signal exclude each other; at most ONE closure is invoked after the signal, and none
    beyond the pending one when `interrupted_next_item_include = false` -/
theorem seq_finish_invokes_after_interrupt_le (c : Cfg) (hseq : c.sequential = true)
    (hst : c.strat = .finish ∨ c.strat = .pollN 0) (as : List Action) :
    handoutsAfterIntr c (init c) false as + pendingAtIntr c (init c) as ≤ 1 ∧
    invokesAfterIntr c (init c) false as ≤ max (intrBound c.strat c.incl) (pendingAtIntr c (init c) as) ∧
    invokesAfterIntr c (init c) false as ≤ 1 := by
  have hst' : c.strat = .finish ∨ ∃ k, c.strat = .pollN k := by
    rcases hst with h | h
    · exact Or.inl h
    · exact Or.inr ⟨0, h⟩
  have h1 : _ ≤ _ + pendingAtIntr c (init c) as := invokes_le_handouts c as (init c) false
  have h2 := handouts_after_interrupt_le c hst' as
  have h3 := seq_pendingAtIntr_le_one c hseq as
  have h4 := seq_pending_or_handouts c hseq hst as (init c) (seqI_init c)
  have h5 : intrBound c.strat c.incl ≤ 1 := by
    rcases hst with h | h <;> rw [h] <;> simp only [intrBound] <;> split <;> omega
  have hsum : handoutsAfterIntr c (init c) false as + pendingAtIntr c (init c) as ≤ 1 := by
    rcases h4 with h | h <;> omega
  refine ⟨hsum, ?_, Nat.le_trans h1 hsum⟩
  rcases h4 with h | h <;> rw [h] at h1
  · exact Nat.le_trans h1 (Nat.le_trans h2 (Nat.le_max_left _ _))
  · exact Nat.le_trans h1 (Nat.le_trans (Nat.le_of_eq (Nat.zero_add _)) (Nat.le_max_right _ _))

/-- in a sequential run nothing is pending when the signal is received -/
theorem seq_no_pending_at_receive {c : Cfg} {s s' : PState} {a : Action} (hseq : c.sequential = true)
    (h : step? c s a = some s') (h0 : s.im.recv = false) (h1 : s'.im.recv = true) :
    s.inflight = [] ∧ pendingInvoke s = 0 := by
  have ha := receive_is_poll h h0 h1
  subst ha
  -- a sequential scheduler polls the ready stream only when nothing is in flight
  have := seq_poll_inflight_nil hseq h
  exact ⟨this, pendingInvoke_of_inflight_nil this⟩

def exSeqWide_N (st : Strat) (incl : Bool) : Cfg := { exWide_H st incl with sequential := true }
def exSeqChain_N (st : Strat) (incl : Bool) : Cfg := { exChain_H st incl with sequential := true }

/-- the model does let `interrupt` fall between hand-out and invocation: `pendingAtIntr = 1`;
    `PollNextN(1)` then attains `intrBound + 1 = 2` invocations after the signal -/
def exSeqTrace_N : List Action :=
  [.schedPoll, .interrupt, .invoke 2, .finish 2 true, .schedPoll, .invoke 1, .finish 1 true,
   .schedPoll, .schedPoll]

example : (run (exSeqWide_N (.pollN 1) true) (init (exSeqWide_N (.pollN 1) true)) exSeqTrace_N).map
    (fun s => (s.handedOut, s.invoked, s.streamEnded)) = some ([2, 1], [2, 1], true) := by decide
example : pendingAtIntr (exSeqWide_N (.pollN 1) true) (init (exSeqWide_N (.pollN 1) true)) exSeqTrace_N = 1
    ∧ invokesAfterIntr (exSeqWide_N (.pollN 1) true) (init (exSeqWide_N (.pollN 1) true)) false
        exSeqTrace_N = 2
    ∧ intrBound (.pollN 1) true = 1 := by decide

/-- sequential `FinishCurrent`: with a function pending at the signal the next poll answers
    `Interrupted(None)`: one invocation after the signal (the pending one), no hand-out … -/
example : pendingAtIntr (exSeqWide_N .finish true) (init (exSeqWide_N .finish true))
      [.schedPoll, .interrupt, .invoke 2, .finish 2 true, .schedPoll, .schedPoll] = 1
    ∧ invokesAfterIntr (exSeqWide_N .finish true) (init (exSeqWide_N .finish true)) false
      [.schedPoll, .interrupt, .invoke 2, .finish 2 true, .schedPoll, .schedPoll] = 1
    ∧ handoutsAfterIntr (exSeqWide_N .finish true) (init (exSeqWide_N .finish true)) false
      [.schedPoll, .interrupt, .invoke 2, .finish 2 true, .schedPoll, .schedPoll] = 0 := by decide

/-- … and with the stream parked on `Pending` at the signal nothing is pending and the one
    `Interrupted(Some 1)` function is handed out and invoked -/
example : pendingAtIntr (exSeqChain_N .finish true) (init (exSeqChain_N .finish true))
      [.schedPoll, .invoke 0, .finish 0 true, .schedPoll, .interrupt, .queuerRecv, .schedPoll,
       .invoke 1, .finish 1 true, .schedPoll] = 0
    ∧ invokesAfterIntr (exSeqChain_N .finish true) (init (exSeqChain_N .finish true)) false
      [.schedPoll, .invoke 0, .finish 0 true, .schedPoll, .interrupt, .queuerRecv, .schedPoll,
       .invoke 1, .finish 1 true, .schedPoll] = 1
    ∧ handoutsAfterIntr (exSeqChain_N .finish true) (init (exSeqChain_N .finish true)) false
      [.schedPoll, .invoke 0, .finish 0 true, .schedPoll, .interrupt, .queuerRecv, .schedPoll,
       .invoke 1, .finish 1 true, .schedPoll] = 1 := by decide

example : invokesAfterIntr (exSeqWide_N .finish true) (init (exSeqWide_N .finish true)) false
    exSeqTrace_N ≤ 1 :=
  (seq_finish_invokes_after_interrupt_le _ rfl (Or.inl rfl) _).2.2

/-- the exclusion is a property of the sequential case: the concurrent run `exTrace_N` above has
    3 pending functions AND a hand-out after the signal -/
example : handoutsAfterIntr (exWide_H .finish true) (init (exWide_H .finish true)) false exTrace_N = 1
    ∧ pendingAtIntr (exWide_H .finish true) (init (exWide_H .finish true)) exTrace_N = 3 := by decide

/-- **C09**: when the call returns an outcome, every function whose closure was started is listed
    as processed, has completed (successfully or with an error), and nothing is still in flight -/
theorem started_all_reported {c : Cfg} {s : PState} (hc : GoodCfg c) (hapi : c.ApiOk)
    (hr : Reachable c s) {fin : Bool} {p np errs : List Nat}
    (h : s.result = some (.outcome fin p np errs)) :
    (∀ f ∈ s.invoked, f ∈ p) ∧ (∀ f ∈ s.invoked, f ∈ s.endedOk ∨ f ∈ s.failed) ∧ s.inflight = [] := by
  have hinv := inv_reachable hc hapi hr
  obtain ⟨hp, _, _, _, _⟩ := outcome_exact hc hapi hr h
  have hinfl := return_no_inflight hc hapi hr (by rw [h]; rfl)
  refine ⟨?_, ?_, hinfl⟩
  · intro f hf
    rw [hp]
    exact hinv.invHanded f hf
  · intro f hf
    rcases hinv.handedSplit f (hinv.invHanded f hf) with h1 | h1
    · rw [hinfl] at h1; cases h1
    · exact h1

/-- conversely everything reported as processed was started (from `outcome_exact`), so the
    processed list and the started functions have the same members -/
theorem started_iff_reported {c : Cfg} {s : PState} (hc : GoodCfg c) (hapi : c.ApiOk)
    (hr : Reachable c s) {fin : Bool} {p np errs : List Nat}
    (h : s.result = some (.outcome fin p np errs)) (f : Nat) : f ∈ s.invoked ↔ f ∈ p := by
  obtain ⟨hp, _, _, _, h5⟩ := outcome_exact hc hapi hr h
  exact ⟨(started_all_reported hc hapi hr h).1 f, fun hf => h5 f (hp ▸ hf)⟩

/-- non-vacuity: the diamond, collecting errors; function 1 fails, 3 is never started; the call
    returns `processed = [0, 2, 1]`, all three started, completed and reported -/
example : ∃ s, Reachable exCollect_F s ∧
    s.result = some (.outcome false [0, 2, 1] [3] [1]) ∧ s.invoked = [0, 2, 1] ∧
    (∀ f ∈ s.invoked, f ∈ [0, 2, 1]) ∧ (∀ f ∈ s.invoked, f ∈ s.endedOk ∨ f ∈ s.failed) ∧
    s.inflight = [] := by
  obtain ⟨s, hr, hp⟩ := reachable_of_any (c := exCollect_F)
    (as := [.schedPoll, .invoke 0, .finish 0 true, .queuerRecv, .schedPoll, .schedPoll, .invoke 2,
            .invoke 1, .finish 2 true, .finish 1 false, .queuerRecv, .queuerEnd, .schedPoll,
            .schedEnd, .ret])
    (p := fun s => s.result == some (.outcome false [0, 2, 1] [3] [1]) && s.invoked == [0, 2, 1])
    (by decide)
  simp only [Bool.and_eq_true, beq_iff_eq] at hp
  obtain ⟨h1, h2, h3⟩ := started_all_reported exCollect_good_F (by unfold Cfg.ApiOk; decide) hr hp.1
  exact ⟨s, hr, hp.1, hp.2, h1, h2, h3⟩

/-- `interrupt_only_removes` as one equation between optional states -/
theorem interrupt_only_removes_map (c : Cfg) (hst : c.strat = .non ∨ c.strat = .ignore)
    (as : List Action) :
    (run c (init c) as).map (fun s => ({ s with im := {} } : PState)) =
      (run c (init c) (as.filter (· ≠ .interrupt))).map (fun s => ({ s with im := {} } : PState)) :=
  run_filter_interrupt hst as (init c) (init c) ⟨rfl, rfl, rfl, rfl, rfl⟩

/-- **C08**: with `NonInterruptible` / `IgnoreInterruptions` a schedule and the same schedule without
    its `interrupt` actions are both executable or both not, and the final states differ at most
    in `im` (the bookkeeping of the `InterruptibleStream`). -/
theorem interrupt_only_removes (c : Cfg) (hst : c.strat = .non ∨ c.strat = .ignore)
    (as : List Action) :
    ((run c (init c) as).isSome = (run c (init c) (as.filter (· ≠ .interrupt))).isSome) ∧
    (∀ s t, run c (init c) as = some s → run c (init c) (as.filter (· ≠ .interrupt)) = some t →
      ({ s with im := {} } : PState) = { t with im := {} }) := by
  have key := interrupt_only_removes_map c hst as
  refine ⟨?_, fun s t hs ht => ?_⟩
  · rw [← Option.isSome_map, key, Option.isSome_map]
  · rw [hs, ht] at key
    exact Option.some.inj key

/-- non-vacuity: three signals in a run of the wide graph; the two final states exist, differ in
    `im` (sent / received / counted) and agree elsewhere -/
def exTraceC_N : List Action :=
  [.interrupt, .schedPoll, .schedPoll, .interrupt, .schedPoll, .invoke 2, .finish 2 true,
   .interrupt, .queuerRecv]

example : (run (exWide_H .ignore true) (init (exWide_H .ignore true)) exTraceC_N).map
      (fun s => (s.im.sent, s.im.recv, s.im.cnt)) = some (true, true, 3) := by decide
example : (run (exWide_H .ignore true) (init (exWide_H .ignore true)) exTraceC_N).map
      (fun s => (s.handedOut, s.endedOk, s.released)) = some ([2, 1, 0], [2], [2]) := by decide
example : (run (exWide_H .ignore true) (init (exWide_H .ignore true))
        (exTraceC_N.filter (· ≠ .interrupt))).map
      (fun s => (s.im.sent, s.im.recv, s.im.cnt)) = some (false, false, 0) := by decide
example : (run (exWide_H .ignore true) (init (exWide_H .ignore true))
        (exTraceC_N.filter (· ≠ .interrupt))).map
      (fun s => (s.handedOut, s.endedOk, s.released)) = some ([2, 1, 0], [2], [2]) := by decide
example : (run (exWide_H .non true) (init (exWide_H .non true)) exTraceC_N).map
      (fun s => (s.im.sent, s.handedOut)) = some (true, [2, 1, 0])
    ∧ (run (exWide_H .non true) (init (exWide_H .non true))
        (exTraceC_N.filter (· ≠ .interrupt))).map
      (fun s => (s.im.sent, s.handedOut)) = some (false, [2, 1, 0]) := by decide
example : ∀ s t, run (exWide_H .ignore true) (init (exWide_H .ignore true)) exTraceC_N = some s →
    run (exWide_H .ignore true) (init (exWide_H .ignore true))
      (exTraceC_N.filter (· ≠ .interrupt)) = some t →
    ({ s with im := {} } : PState) = { t with im := {} } :=
  (interrupt_only_removes _ (Or.inr rfl) exTraceC_N).2
/-- … whereas a disabled action stays disabled -/
example : (run (exWide_H .ignore true) (init (exWide_H .ignore true))
      [.interrupt, .schedPoll, .invoke 0]).isSome = false
    ∧ (run (exWide_H .ignore true) (init (exWide_H .ignore true))
      ([Action.interrupt, .schedPoll, .invoke 0].filter (· ≠ .interrupt))).isSome = false := by decide
/-- the hypothesis on the strategy is needed: `FinishCurrent` reacts to the signal -/
example : (run (exWide_H .finish true) (init (exWide_H .finish true))
      [.interrupt, .schedPoll]).map (·.handedOut) = some []
    ∧ (run (exWide_H .finish true) (init (exWide_H .finish true))
      ([Action.interrupt, .schedPoll].filter (· ≠ .interrupt))).map (·.handedOut) = some [2] := by decide

end FG
