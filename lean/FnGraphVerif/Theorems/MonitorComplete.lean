/-
  Theorems/MonitorComplete.lean — MONITOR COMPLETENESS: the tracking monitor (`trackFut` /
  `trackRun`, non-coop sessions) raises NO FALSE ALARM on behaviour the model allows — under two
  side conditions on the observable run, both necessary (`track_complete`).

  Exhaustive search (`Proofs/SSearch.lean`; product of the model and the monitor state over
  every `ObsRun` of 15 graphs with ≤ 3 nodes × 240 configurations, 6.3 million product states, `q` at
  every quiescent non-returned state, `interrupt` at every quiet point; four 4-node graphs for
  `IgnoreInterruptions` / `PollNextN(1,2)`): the monitor REJECTS runs of the model in exactly two ways.
  (a) `R-quiesce … invoked` — closures started in an order different from the hand-out order: the
      monitor compares the LIST `invoked` of its own (hand-out ordered) replay with the observed start
      order.  Excluded by `RunOk evs`.  A real executor starts the closure inside the hand-out
      (`for_each_concurrent` calls `f(item)` at once), so no false alarm in practice.  `cxA_*` below.
  (b) `R-step handout … none-enabled` — an `intr` that is neither sent directly after a `q` nor the very
      first event, strategies `FinishCurrent` and `PollNextN(0)` only: whether the interruptible stream had
      been polled to `Pending` before the signal (`has_pending`) decides between `Interrupted(Some item)`
      and `Interrupted(None)`; that poll shows no event, and the lazy monitor has not performed it (it
      only `settle`s at `q`).  Excluded by `IntrAtQ`.  The event order is one a real single-task executor
      produces whenever the signal is not preceded by a `q` in the log (`cxB_*`; `cxB2_*`: signal sent from
      inside a completing future, the harness's `intr_on_end`) — a potential FALSE ALARM of the checker.
      For `NonInterruptible`, `IgnoreInterruptions`, `PollNextN(k ≥ 1)` no such rejection was found: there
      `IntrAtQ` is sufficient but probably not necessary.
  `q` events at quiescent states off the monitor's eager path are never rejected (confluence), and with
  `RunOk` and `IntrAtQ` there is not a single rejection in the whole search space.  `IntrAtQ` is slightly
  stronger than what the search needs: two signals in a row, or a first-event signal on the empty
  graph, are not covered.

  Proof: the coupling `Cpl` (`Proofs/TrackCoupling.lean`) — the real state and the monitor state settle to
  the same state modulo `SimC`, with equal `handedOut` / `inflight`.  Internal actions of either side do
  not change the settled state (confluence); `finish` commutes with every core action except a poll that
  closes the done channel, where the two orders differ only in the queuer's private data, which `SimC`
  forgets in such closed states; `interrupt` does NOT commute with `schedPoll` (rejection class (b)) and
  is only applied when the two states are `SimC`-equal and the real run cannot move on unobserved
  (`Synced`: after a `q`, or at `init` of a non-empty graph), which `IntrAtQ` guarantees.
-/
import FnGraphVerif.Proofs.TrackStep
import FnGraphVerif.Theorems.TracePreds
namespace FG

/-- every `intr` comes directly after a `q` — or is the very first event of a run on a non-empty
    graph (a signal that is already pending when the call begins) -/
def IntrAtQ (x : MonCtx) (evs : List Ev) : Prop := intrAtQFrom (decide (x.c.n ≠ 0)) evs

instance (x : MonCtx) (evs : List Ev) : Decidable (IntrAtQ x evs) := by unfold IntrAtQ; infer_instance

/-- the side condition under which completeness is proved: closures are started in hand-out order,
    and interrupt signals are sent directly after a `q` observation (or first of all) — unless the
    stream is `NonInterruptible`, where signals may come at any time -/
structure TrackSide (x : MonCtx) (evs : List Ev) : Prop where
  fifo : RunOk evs
  intr : x.c.strat = .non ∨ IntrAtQ x evs

/-- **Monitor completeness**: no false alarm on a run of the model that starts closures in hand-out
    order and whose interrupt signals are sent directly after a `q` (or first of all; any time for
    `NonInterruptible`).  Without `hside` the statement is false: `track_complete_original_false`. -/
theorem track_complete {x : MonCtx} (hx : GoodCtx x) (hcoop : x.coop = false) {evs : List Ev}
    {s : PState} (h : ObsRun x (init x.c) evs s) (hside : TrackSide x evs) :
    ∀ n ∈ (trackRun x { s := init x.c } evs).2, n.ok = true := by
  intro n hn
  refine (track_gen_init hx hcoop h hside.intr n hn).1 ?_
  unfold FifoT
  simpa using hside.fifo.invokeFifo

/-- without `RunOk`: every note is ok except possibly `R-quiesce "q invoked"` — the start ORDER of the
    closures is the only thing the monitor checks beyond what the model fixes -/
theorem track_complete_partial {x : MonCtx} (hx : GoodCtx x) (hcoop : x.coop = false) {evs : List Ev}
    {s : PState} (h : ObsRun x (init x.c) evs s) (hintr : x.c.strat = .non ∨ IntrAtQ x evs) :
    ∀ n ∈ (trackRun x { s := init x.c } evs).2, n.ok = true ∨ n.isQInvoked := by
  intro n hn
  exact (track_gen_init hx hcoop h hintr n hn).2

def Note.facet : Note → String
  | .cmp f _ _ _ => f
  | .prop _ _ _ => ""

/-- facet by facet: `R-step` and `R-outcome` never raise a false alarm (no `RunOk` needed) -/
theorem track_complete_facet {x : MonCtx} (hx : GoodCtx x) (hcoop : x.coop = false) {evs : List Ev}
    {s : PState} (h : ObsRun x (init x.c) evs s) (hintr : x.c.strat = .non ∨ IntrAtQ x evs)
    (fc : String) (hfc : fc ≠ "R-quiesce") :
    ∀ n ∈ (trackRun x { s := init x.c } evs).2, n.facet = fc → n.ok = true := by
  intro n hn hf
  rcases track_complete_partial hx hcoop h hintr n hn with h1 | h1
  · exact h1
  · exfalso
    cases n with
    | prop => exact h1
    | cmp f w m i =>
      simp only [Note.facet] at hf
      exact hfc (hf ▸ h1.1)

/-- (a) diamond, clean run; `2` and `1` are handed out in this order and started in the other -/
def cxA_schedule : List SchedItem :=
  [.act .schedPoll, .act (.invoke 0), .act (.finish 0 true), .act .queuerRecv, .act .schedPoll,
   .act .schedPoll, .act (.invoke 1), .act (.invoke 2), .act .schedPoll, .q]

def cxA_events : List Ev :=
  [.handout 0, .invoke 0, .fin 0 true, .handout 2, .handout 1, .invoke 1, .invoke 2, .q]

theorem cxA_obsRun : ∃ s, ObsRun (xDiamond exCfg_F) (init exCfg_F) cxA_events s :=
  obsRun_of_obsEvents (l := cxA_schedule) (by decide)

/-- the monitor rejects it: exactly one note fails, `R-quiesce … invoked` (model `0,2,1`, observed `0,1,2`) -/
theorem cxA_rejected :
    (trackRun (xDiamond exCfg_F) { s := init exCfg_F } cxA_events).2.filter (fun n => !n.ok) =
      [.cmp "R-quiesce" "q invoked" "0,2,1" "0,1,2"] := by decide

/-- the run violates `RunOk` and nothing else (no interrupt at all) -/
theorem cxA_side : ¬ RunOk cxA_events ∧ IntrAtQ (xDiamond exCfg_F) cxA_events :=
  ⟨fun h => absurd h.invokeFifo (by decide), by decide⟩

/-- `track_complete_partial` applied to this run: its other 11 notes are ok -/
example : ∀ n ∈ (trackRun (xDiamond exCfg_F) { s := init exCfg_F } cxA_events).2, n.ok = true ∨ n.isQInvoked := by
  obtain ⟨s, hs⟩ := cxA_obsRun
  exact track_complete_partial xDiamond_exCfg_good rfl hs (Or.inl rfl)

/-- (b) `FinishCurrent`: the scheduler has polled the stream to `Pending` (no event), then the signal
    arrives (the state is quiescent, but no `q` is in the log), `0` completes and `2` is handed out as
    `Interrupted(Some 2)`.  The monitor has not performed the `Pending` poll and expects
    `Interrupted(None)`. -/
def cxB_cfg : Cfg := { exCfg_F with strat := .finish }

def cxB_schedule : List SchedItem :=
  [.act .schedPoll, .act (.invoke 0), .act .schedPoll, .act .interrupt, .act (.finish 0 true),
   .act .queuerRecv, .act .schedPoll]

def cxB_events : List Ev := [.handout 0, .invoke 0, .intr, .fin 0 true, .handout 2]

theorem cxB_obsRun : ∃ s, ObsRun (xDiamond cxB_cfg) (init cxB_cfg) cxB_events s :=
  obsRun_of_obsEvents (l := cxB_schedule) (by decide)

theorem cxB_rejected :
    (trackRun (xDiamond cxB_cfg) { s := init cxB_cfg } cxB_events).2.filter (fun n => !n.ok) =
      [.cmp "R-step" "handout 2" "none-enabled" "2"] := by decide

/-- the signal was sent at a quiescent point of the real run -/
theorem cxB_quiescent :
    ((run cxB_cfg (init cxB_cfg) [.schedPoll, .invoke 0, .schedPoll]).map
      (fun s => decide (Quiescent cxB_cfg s))) = some true := by decide

theorem cxB_side : RunOk cxB_events ∧ ¬ IntrAtQ (xDiamond cxB_cfg) cxB_events := ⟨⟨by decide⟩, by decide⟩

/-- with the `q` observation in the log the same run is accepted -/
def cxB_events_q : List Ev := [.handout 0, .invoke 0, .q, .intr, .fin 0 true, .handout 2]

set_option maxRecDepth 100000 in
example : ∀ n ∈ (trackRun (xDiamond cxB_cfg) { s := init cxB_cfg } cxB_events_q).2, n.ok = true := by decide

/-- (b2) `FinishCurrent`, `limit 2`: `2` and `1` are in flight (the scheduler is at its limit and does not
    poll the stream: `has_pending = false` at the second `q`).  Both complete in one poll round; the
    executor polls the stream to `Pending` after the first completion; the signal is sent from inside the
    second completing future.  `3` is then handed out as `Interrupted(Some 3)`; the monitor, which went
    from `fin 2` to `fin 1` without polling, expects `Interrupted(None)`. -/
def cxB2_cfg : Cfg := { exCfg_F with strat := .finish, limit := some 2 }

def cxB2_schedule : List SchedItem :=
  [.act .schedPoll, .act (.invoke 0), .act .schedPoll, .q, .act (.finish 0 true), .act .queuerRecv,
   .act .schedPoll, .act (.invoke 2), .act .schedPoll, .act (.invoke 1), .q,
   .act (.finish 2 true), .act .schedPoll, .act (.finish 1 true), .act .interrupt,
   .act .queuerRecv, .act .queuerRecv, .act .schedPoll]

def cxB2_events : List Ev :=
  [.handout 0, .invoke 0, .q, .fin 0 true, .handout 2, .invoke 2, .handout 1, .invoke 1, .q,
   .fin 2 true, .fin 1 true, .intr, .handout 3]

theorem cxB2_obsRun : ∃ s, ObsRun (xDiamond cxB2_cfg) (init cxB2_cfg) cxB2_events s :=
  obsRun_of_obsEvents (l := cxB2_schedule) (by decide)

theorem cxB2_rejected :
    (trackRun (xDiamond cxB2_cfg) { s := init cxB2_cfg } cxB2_events).2.filter (fun n => !n.ok) =
      [.cmp "R-step" "handout 3" "none-enabled" "3"] := by decide

theorem cxB2_side : RunOk cxB2_events ∧ ¬ IntrAtQ (xDiamond cxB2_cfg) cxB2_events := ⟨⟨by decide⟩, by decide⟩

theorem not_all_ok_of_rejected {notes : List Note} {r : Note} {rs : List Note}
    (h : notes.filter (fun n => !n.ok) = r :: rs) : ¬ ∀ n ∈ notes, n.ok = true := by
  intro hall
  have hr : r ∈ notes.filter (fun n => !n.ok) := by rw [h]; exact List.mem_cons_self
  obtain ⟨hm, hnok⟩ := List.mem_filter.mp hr
  rw [hall r hm] at hnok
  cases hnok

/-- **the statement without a side condition is false**, and so is each half of `TrackSide` alone -/
theorem track_complete_original_false :
    ¬ (∀ (x : MonCtx), GoodCtx x → x.coop = false → ∀ (evs : List Ev) (s : PState),
        ObsRun x (init x.c) evs s → ∀ n ∈ (trackRun x { s := init x.c } evs).2, n.ok = true) := by
  intro h
  obtain ⟨s, hs⟩ := cxA_obsRun
  exact not_all_ok_of_rejected cxA_rejected (h _ xDiamond_exCfg_good rfl _ s hs)

/-- `RunOk` alone is not enough (interrupting strategies need `IntrAtQ`) -/
theorem track_complete_needs_intrAtQ :
    ¬ (∀ (x : MonCtx), GoodCtx x → x.coop = false → ∀ (evs : List Ev) (s : PState),
        ObsRun x (init x.c) evs s → RunOk evs → ∀ n ∈ (trackRun x { s := init x.c } evs).2, n.ok = true) := by
  intro h
  obtain ⟨s, hs⟩ := cxB_obsRun
  exact not_all_ok_of_rejected cxB_rejected
    (h _ (xDiamond_good cxB_cfg rfl rfl (by intro h; cases h)) rfl _ s hs cxB_side.1)

/-- `IntrAtQ` alone is not enough either -/
theorem track_complete_needs_runOk :
    ¬ (∀ (x : MonCtx), GoodCtx x → x.coop = false → ∀ (evs : List Ev) (s : PState),
        ObsRun x (init x.c) evs s → IntrAtQ x evs → ∀ n ∈ (trackRun x { s := init x.c } evs).2, n.ok = true) := by
  intro h
  obtain ⟨s, hs⟩ := cxA_obsRun
  exact not_all_ok_of_rejected cxA_rejected (h _ xDiamond_exCfg_good rfl _ s hs cxA_side.2)

/-- (1) the clean complete run of the diamond with three `q` observations (`Theorems/TracePreds.lean`);
    its real schedule lets the scheduler poll BEFORE the queuer has folded the done ids and invokes
    lazily — not the monitor's order -/
example : ∀ n ∈ (trackRun (xDiamond exCfg_F) { s := init exCfg_F } okEvents_Q).2, n.ok = true := by
  obtain ⟨s, hs⟩ := ok_obsRun_Q
  exact track_complete xDiamond_exCfg_good rfl hs
    ⟨ok_runOk_Q, Or.inl rfl⟩

set_option maxRecDepth 100000 in
example : (trackRun (xDiamond exCfg_F) { s := init exCfg_F } okEvents_Q).2.length = 25 := by decide

/-- (2) `FinishCurrent`, interrupted run: the signal arrives directly after the first `q`; a real
    schedule in which the scheduler polls (`Pending`) between the signal and the completion of `0`,
    and hands `2` out as `Interrupted(Some 2)`; the call returns `Interrupted`, `1` and `3` not processed -/
def intrSchedule_S : List SchedItem :=
  [.act .schedPoll, .act (.invoke 0), .act .schedPoll, .q, .act .interrupt, .act .schedPoll,
   .act (.finish 0 true), .act .queuerRecv, .act .schedPoll, .act (.invoke 2), .act .schedPoll, .q,
   .act (.finish 2 true), .act .queuerRecv, .act .queuerEnd, .act .schedEnd, .act .ret]

def intrEvents_S : List Ev :=
  [.handout 0, .invoke 0, .q, .intr, .fin 0 true, .handout 2, .invoke 2, .q, .fin 2 true,
   .retOutcome false [0, 2] [1, 3] [] "break"]

theorem intr_obsRun_S : ∃ s, ObsRun (xDiamond intrCfg_Q) (init intrCfg_Q) intrEvents_S s :=
  obsRun_of_obsEvents (l := intrSchedule_S) (by decide)

theorem intr_side_S : TrackSide (xDiamond intrCfg_Q) intrEvents_S := ⟨⟨by decide⟩, Or.inr (by decide)⟩

example : ∀ n ∈ (trackRun (xDiamond intrCfg_Q) { s := init intrCfg_Q } intrEvents_S).2, n.ok = true := by
  obtain ⟨s, hs⟩ := intr_obsRun_S
  exact track_complete (xDiamond_good intrCfg_Q rfl rfl (by intro h; cases h)) rfl hs intr_side_S

/-- (3) `FinishCurrent`, `incl = false`, `limit 2`: the poll after the signal swallows `3` and CLOSES the
    done channel between the completions of `2` and `1` — in the real run `1`'s completion is no longer
    reported to the queuer, in the monitor's replay (both completions first, then the poll) it is.  The
    two model states differ for good (`released`, `counts`); `SimC` identifies them. -/
def closeCfg_S : Cfg := { exCfg_F with strat := .finish, incl := false, limit := some 2 }

def closeSchedule_S : List SchedItem :=
  [.act .schedPoll, .act (.invoke 0), .act .schedPoll, .q, .act (.finish 0 true), .act .queuerRecv,
   .act .schedPoll, .act (.invoke 2), .act .schedPoll, .act (.invoke 1), .q, .act .interrupt,
   .act (.finish 2 true), .act .schedPoll, .act (.finish 1 true), .act .queuerRecv, .act .queuerEnd,
   .act .schedPoll, .act .schedEnd, .act .ret]

def closeEvents_S : List Ev :=
  [.handout 0, .invoke 0, .q, .fin 0 true, .handout 2, .invoke 2, .handout 1, .invoke 1, .q, .intr,
   .fin 2 true, .fin 1 true, .retOutcome false [0, 2, 1] [3] [] "break"]

theorem close_obsRun_S : ∃ s, ObsRun (xDiamond closeCfg_S) (init closeCfg_S) closeEvents_S s :=
  obsRun_of_obsEvents (l := closeSchedule_S) (by decide)

example : ∀ n ∈ (trackRun (xDiamond closeCfg_S) { s := init closeCfg_S } closeEvents_S).2, n.ok = true := by
  obtain ⟨s, hs⟩ := close_obsRun_S
  exact track_complete (xDiamond_good closeCfg_S rfl rfl (by intro h; cases h)) rfl hs
    ⟨⟨by decide⟩, Or.inr (by decide)⟩

set_option maxRecDepth 100000 in
/-- in (3) the real run and the monitor really end in different model states: the real queuer has
    released `0, 2`, the monitor's `0, 2, 1` -/
example :
    ((obsEvents (xDiamond closeCfg_S) (init closeCfg_S) closeSchedule_S).map (fun r => r.2.released)) = some [0, 2] ∧
    (trackRun (xDiamond closeCfg_S) { s := init closeCfg_S } closeEvents_S).1.s.released = [0, 2, 1] := by decide

end FG
