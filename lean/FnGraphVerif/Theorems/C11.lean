/-
  Theorems/C11.lean — `DataEdgeAugmenter::augment` never fails, keeps the user's edges as a
  prefix, adds only `Data` edges and only between conflicting functions, keeps the graph
  acyclic, orders every conflicting pair, and makes at most `n²` path checks.
-/
import FnGraphVerif.Proofs.AugmentInv
namespace FG

/-- what `augment` needs of its input: a good graph and ranks that rise strictly along every edge
    (which `ranks_strict` of C13 provides) -/
structure AugIn (g : Dag) (ranks : List Nat) : Prop where
  good : GoodG g
  len : ranks.length = g.n
  strict : ∀ u v, IsEdge g u v → ranks[u]?.getD 0 < ranks[v]?.getD 0

/-- position of a function in the rank-sorted order (rank first, insertion order at equal rank) -/
def posOf (n : Nat) (ranks : List Nat) (v : Nat) : Nat := idxOf (rankOrder n ranks) v

/-- the sorted order is a permutation, sorted by rank, stable -/
theorem rankOrder_spec (n : Nat) (ranks : List Nat) :
    (rankOrder n ranks).Perm (List.range n) ∧
    (∀ u v, u < n → v < n →
      (posOf n ranks u < posOf n ranks v ↔
        (ranks[u]?.getD 0 < ranks[v]?.getD 0 ∨ (ranks[u]?.getD 0 = ranks[v]?.getD 0 ∧ u < v)))) := by
  obtain ⟨hpw, hperm⟩ := sortByRank_spec (fun i => ranks[i]?.getD 0) n
  refine ⟨hperm, ?_⟩
  intro u v hu hv
  have hum : u ∈ rankOrder n ranks := hperm.mem_iff.mpr (List.mem_range.mpr hu)
  have hvm : v ∈ rankOrder n ranks := hperm.mem_iff.mpr (List.mem_range.mpr hv)
  exact idxOf_lt_iff_of_pairwise (R := rlt (fun i => ranks[i]?.getD 0)) hpw
    (fun a b h => rlt_asymm h) hum hvm

/-- non-vacuity: ranks `[0,1,2,0]` put node 3 (rank 0, inserted last) right after node 0 -/
example : rankOrder 4 [0, 1, 2, 0] = [0, 3, 1, 2] := by decide
example : posOf 4 [0, 1, 2, 0] 3 < posOf 4 [0, 1, 2, 0] 1 := by decide

theorem AugIn.ctx {g : Dag} {ranks : List Nat} (h : AugIn g ranks) : OrdCtx g (rankOrder g.n ranks) := by
  obtain ⟨hperm, hpos⟩ := rankOrder_spec g.n ranks
  refine ⟨h.good, hperm.nodup_iff.mpr List.nodup_range, ?_, ?_, ?_⟩
  · intro v; rw [hperm.mem_iff, List.mem_range]
  · rw [hperm.length_eq, List.length_range]
  · intro u v he
    obtain ⟨hu, hv⟩ := he.lt h.good.wf
    exact (hpos u v hu hv).mpr (Or.inl (h.strict u v he))

theorem augment_inv {g : Dag} (decls : List FnDecl) {ranks : List Nat} (h : AugIn g ranks) :
    ∃ Dd B, AInv g decls (rankOrder g.n ranks) (augment g decls ranks) Dd 0 B ∧
      Joined g decls (rankOrder g.n ranks) (augment g decls ranks) 0 ∧
      (augment g decls ranks).checks ≤ g.n * g.n := by
  have ctx := h.ctx
  have hj : Joined g decls (rankOrder g.n ranks) ⟨g, 0, true⟩ g.n := by
    intro a b ha _ hpa _ _
    have := idxOf_lt_length ((ctx.mem a).mpr ha)
    rw [ctx.len] at this
    omega
  obtain ⟨Dd, B, inv, hj', hc⟩ := augOuter_fold (decls := decls) ctx g.n (Nat.le_refl _) ⟨g, 0, true⟩ [] 0
    (AInv.init g decls _ h.good _ _) hj
  refine ⟨Dd, B, inv, hj', ?_⟩
  simpa [augment] using hc

theorem conflict_comm (a b : FnDecl) : conflict a b = conflict b a := by
  unfold conflict
  rw [any_any_comm a.reads b.writes, any_any_comm a.writes b.reads, any_any_comm a.writes b.writes]
  generalize b.writes.any (fun l => a.reads.any (fun r => l == r)) = p
  generalize b.reads.any (fun l => a.writes.any (fun r => l == r)) = q
  generalize b.writes.any (fun l => a.writes.any (fun r => l == r)) = r
  cases p <;> cases q <;> cases r <;> rfl

/-- **C11** (and the builder half of C01 / C06, and C18's second clause) -/
theorem augment_sound {g : Dag} {decls : List FnDecl} {ranks : List Nat} (h : AugIn g ranks) :
    (augment g decls ranks).ok = true ∧
    (augment g decls ranks).g.n = g.n ∧
    (∃ Dd, (augment g decls ranks).g.edges = g.edges ++ Dd ∧
      ∀ e ∈ Dd, e.kind = .data ∧ conflict (declOf decls e.src) (declOf decls e.tgt) = true ∧
                posOf g.n ranks e.src < posOf g.n ranks e.tgt) ∧
    GoodG (augment g decls ranks).g ∧
    (∀ u v, u < g.n → v < g.n → u ≠ v → conflict (declOf decls u) (declOf decls v) = true →
      ReachP (augment g decls ranks).g u v ∨ ReachP (augment g decls ranks).g v u) ∧
    (augment g decls ranks).checks ≤ g.n * g.n := by
  have ctx := h.ctx
  obtain ⟨Dd, B, inv, hj, hc⟩ := augment_inv decls h
  refine ⟨inv.ok, inv.n, ⟨Dd, inv.edges, ?_⟩, inv.goodG ctx, ?_, hc⟩
  · intro e he
    obtain ⟨h1, h2, _, _, h5⟩ := inv.data e he
    exact ⟨h1, h2, h5⟩
  · intro u v hu hv hne hcf
    have hum := (ctx.mem u).mpr hu
    have hvm := (ctx.mem v).mpr hv
    rcases Nat.lt_trichotomy (idxOf (rankOrder g.n ranks) u) (idxOf (rankOrder g.n ranks) v) with hlt | heq | hgt
    · rcases (hj u v hu hv (Nat.zero_le _) hlt hcf).eq_or_reachP with he | hp
      · exact absurd he hne
      · exact Or.inl hp
    · exact absurd (idxOf_inj hum hvm heq) hne
    · rcases (hj v u hv hu (Nat.zero_le _) hgt (by rw [conflict_comm]; exact hcf)).eq_or_reachP with he | hp
      · exact absurd he.symm hne
      · exact Or.inr hp

/-- every edge of the augmented graph points forward in the rank-sorted order -/
theorem augment_forward {g : Dag} {decls : List FnDecl} {ranks : List Nat} (h : AugIn g ranks) {u v : Nat}
    (he : IsEdge (augment g decls ranks).g u v) : posOf g.n ranks u < posOf g.n ranks v := by
  obtain ⟨Dd, B, inv, _, _⟩ := augment_inv decls h
  exact inv.fwd_g h.ctx _ _ he

/-- (for C12) an added edge is not implied by the other edges of the final graph -/
theorem augment_not_redundant {g : Dag} {decls : List FnDecl} {ranks : List Nat} (h : AugIn g ranks)
    {i : Nat} {e : Edge} (hi : (augment g decls ranks).g.edges[i]? = some e) (hge : g.edges.length ≤ i) :
    ¬ Reach ⟨g.n, (augment g decls ranks).g.edges.eraseIdx i⟩ e.src e.tgt := by
  obtain ⟨Dd, B, inv, _, _⟩ := augment_inv decls h
  rw [inv.edges] at hi ⊢
  rw [List.getElem?_append_right hge] at hi
  rw [List.eraseIdx_append_of_length_le hge, List.eraseIdx_eq_take_drop_succ, ← List.append_assoc]
  obtain ⟨hlt, hget⟩ := List.getElem?_eq_some_iff.mp hi
  apply inv.not_redundant h.ctx
  rw [← hget, List.getElem_cons_drop hlt, List.take_append_drop]

/-- **C06**: read/read sharing is not a conflict (a write is required on one side) -/
theorem conflict_needs_write (a b : FnDecl) (h : conflict a b = true) : a.writes ≠ [] ∨ b.writes ≠ [] := by
  by_cases h1 : a.writes = []
  · by_cases h2 : b.writes = []
    · simp [conflict, h1, h2] at h
    · exact Or.inr h2
  · exact Or.inl h1

/-! ### non-vacuity: a four-node instance

  `0 →logic 1 →contains 2`, node `3` isolated; `0` and `2` write resource 7, `3` reads it.
  Ranks `[0,1,2,0]`, order `[0,3,1,2]`.  The scan adds `3 → 2` and then `0 → 3` (the pair `0,2`
  is already ordered by the user's edges) and makes `1 + 2 + 3 = 6` path checks. -/

def exG_D : Dag := ⟨4, [⟨0, 1, .logic⟩, ⟨1, 2, .contains⟩]⟩
def exDecls_D : List FnDecl := [⟨[], [7], 0⟩, ⟨[], [], 1⟩, ⟨[], [7], 2⟩, ⟨[7], [], 3⟩]
def exRanks_D : List Nat := [0, 1, 2, 0]

theorem exAugIn_D : AugIn exG_D exRanks_D :=
  ⟨goodG_of_increasing (by decide) (by decide), rfl, by
    rintro u v ⟨e, he, rfl, rfl⟩
    revert e; decide⟩

example : augment exG_D exDecls_D exRanks_D =
    ⟨⟨4, [⟨0, 1, .logic⟩, ⟨1, 2, .contains⟩, ⟨3, 2, .data⟩, ⟨0, 3, .data⟩]⟩, 6, true⟩ := by decide

/-- the theorem applied to the instance: the read/write pair `3,2` really is joined -/
example : ReachP (augment exG_D exDecls_D exRanks_D).g 3 2 ∨ ReachP (augment exG_D exDecls_D exRanks_D).g 2 3 :=
  (augment_sound (decls := exDecls_D) exAugIn_D).2.2.2.2.1 3 2 (by decide) (by decide) (by decide) (by decide)

example : conflict ⟨[7], [], 0⟩ ⟨[7], [], 1⟩ = false ∧ conflict ⟨[7], [], 0⟩ ⟨[], [7], 1⟩ = true := by decide
example : conflict ⟨[], [7], 1⟩ ⟨[7], [], 0⟩ = conflict ⟨[7], [], 0⟩ ⟨[], [7], 1⟩ := conflict_comm _ _

end FG
