/-
  Theorems/C14.lean — petgraph's `Topo` visits every node exactly once, each after all its
  predecessors; `try_*` stop at the first error; the run-time preload lists every root once.
-/
import FnGraphVerif.Proofs.TopoInv
import FnGraphVerif.Proofs.EdgePairs
import FnGraphVerif.Proofs.SpecFacts
namespace FG

theorem tryVisit_cons_fail {x : Nat} {rest fails : List Nat} (hx : x ∈ fails) :
    tryVisit (x :: rest) fails = ([x], some x) := by
  rw [tryVisit, if_pos hx]

theorem tryVisit_cons_ok {x : Nat} {rest fails : List Nat} (hx : x ∉ fails) :
    tryVisit (x :: rest) fails = (x :: (tryVisit rest fails).1, (tryVisit rest fails).2) := by
  rw [tryVisit, if_neg hx]

/-- a concrete good graph (triangle 0→1, 0→2, 1→2) used by the non-vacuity examples -/
theorem goodG_ex3 : GoodG ⟨3, [⟨0, 1, .logic⟩, ⟨0, 2, .logic⟩, ⟨1, 2, .data⟩]⟩ :=
  goodG_of_increasing (by decide) (by decide)

theorem flip_good {g : Dag} (hg : GoodG g) : GoodG g.flip :=
  ⟨hg.wf.flip, fun u => by rw [children_flip, parents_flip]; exact ⟨(hg.simple u).2, (hg.simple u).1⟩,
    hg.acyclic.flip⟩

example : GoodG (Dag.flip ⟨3, [⟨0, 1, .logic⟩, ⟨0, 2, .logic⟩, ⟨1, 2, .data⟩]⟩) ∧
    (Dag.flip ⟨3, [⟨0, 1, .logic⟩, ⟨0, 2, .logic⟩, ⟨1, 2, .data⟩]⟩).edges
      = [⟨1, 0, .logic⟩, ⟨2, 0, .logic⟩, ⟨2, 1, .data⟩] :=
  ⟨flip_good goodG_ex3, by decide⟩

/-- **C14**: the traversal is a permutation of all nodes … -/
theorem topo_perm {g : Dag} (hg : GoodG g) : (topo g).Perm (List.range g.n) := by
  obtain ⟨st, hinv, hall⟩ := topo_inv hg.wf hg.acyclic
  rw [List.perm_ext_iff_of_nodup hinv.nodup List.nodup_range]
  intro v
  rw [List.mem_range]
  exact ⟨hinv.bound v, hall v⟩

example : topo ⟨4, [⟨0, 1, .logic⟩, ⟨0, 2, .logic⟩, ⟨1, 3, .data⟩, ⟨2, 3, .logic⟩]⟩ = [0, 1, 2, 3] := by decide
example : (topo ⟨3, [⟨0, 1, .logic⟩, ⟨0, 2, .logic⟩, ⟨1, 2, .data⟩]⟩).Perm (List.range 3) :=
  topo_perm goodG_ex3

/-- … in which every edge's source comes before its target -/
theorem topo_respects {g : Dag} (hg : GoodG g) {u v : Nat} (he : IsEdge g u v) :
    idxOf (topo g) u < idxOf (topo g) v := by
  obtain ⟨st, hinv, hall⟩ := topo_inv hg.wf hg.acyclic
  exact (hinv.edges u v he (hall v (he.lt hg.wf).2)).2

example : idxOf (topo ⟨3, [⟨0, 1, .logic⟩, ⟨0, 2, .logic⟩, ⟨1, 2, .data⟩]⟩) 1
    < idxOf (topo ⟨3, [⟨0, 1, .logic⟩, ⟨0, 2, .logic⟩, ⟨1, 2, .data⟩]⟩) 2 :=
  topo_respects goodG_ex3 ⟨⟨1, 2, .data⟩, by decide, rfl, rfl⟩

/-- the decidable form evaluated by the driver on the real sequences -/
theorem topo_topoOrderB {g : Dag} (hg : GoodG g) : topoOrderB g (topo g) = true :=
  topoOrderB_iff.mpr ⟨topo_perm hg, fun _ _ he => topo_respects hg he⟩

example : topoOrderB ⟨4, [⟨0, 1, .logic⟩, ⟨0, 2, .logic⟩, ⟨1, 3, .data⟩, ⟨2, 3, .logic⟩]⟩
    (topo ⟨4, [⟨0, 1, .logic⟩, ⟨0, 2, .logic⟩, ⟨1, 3, .data⟩, ⟨2, 3, .logic⟩]⟩) = true := by decide
/-- the predicate is not trivially true: it rejects an order violating an edge -/
example : topoOrderB ⟨3, [⟨0, 1, .logic⟩, ⟨1, 2, .data⟩]⟩ [0, 2, 1] = false := by decide

/-- walking a `Topo` that was initialised on one graph over another graph with the same edges
    (what `toposort()` callers do) gives the same order -/
theorem topoAll_congr {g g' : Dag} (hn : g.n = g'.n) (he : g.edges = g'.edges) :
    topoAll g (g.n + 1) [] (roots g').reverse = topo g' := by
  obtain ⟨n, es⟩ := g
  obtain ⟨n', es'⟩ := g'
  simp only at hn he
  subst hn; subst he
  rfl

example : topoAll ⟨3, [⟨0, 2, .logic⟩, ⟨1, 2, .data⟩]⟩ (3 + 1) [] (roots ⟨3, [⟨0, 2, .logic⟩, ⟨1, 2, .data⟩]⟩).reverse
    = [1, 0, 2] := by decide

/-- **C14**: `try_fold` / `try_for_each` call the closure on the prefix of the order up to and
    including the first failing function, return its error, and invoke nothing afterwards -/
theorem tryVisit_spec (order fails : List Nat) :
    let r := tryVisit order fails
    (∃ rest, order = r.1 ++ rest) ∧
    (r.2 = none → r.1 = order ∧ ∀ x ∈ order, x ∉ fails) ∧
    (∀ e, r.2 = some e → e ∈ fails ∧ r.1.getLast? = some e ∧ ∀ x ∈ r.1.dropLast, x ∉ fails) := by
  induction order with
  | nil => exact ⟨⟨[], rfl⟩, fun _ => ⟨rfl, fun x hx => nomatch hx⟩, fun e he => nomatch he⟩
  | cons x rest ih =>
    by_cases hx : x ∈ fails
    · rw [tryVisit_cons_fail hx]
      refine ⟨⟨rest, rfl⟩, (fun h => nomatch h), fun e he => ?_⟩
      obtain rfl := Option.some.inj he
      exact ⟨hx, rfl, fun x hx => nomatch hx⟩
    · rw [tryVisit_cons_ok hx]
      obtain ⟨⟨r, hr⟩, h2, h3⟩ := ih
      refine ⟨⟨r, congrArg (x :: ·) hr⟩, fun hn => ?_, fun e he => ?_⟩
      · obtain ⟨h2a, h2b⟩ := h2 hn
        exact ⟨congrArg (x :: ·) h2a, List.forall_mem_cons.mpr ⟨hx, h2b⟩⟩
      · obtain ⟨h3a, h3b, h3c⟩ := h3 e he
        -- the visited part of `rest` ends with `e`, so it is not empty
        obtain ⟨a, t, hat⟩ := List.exists_cons_of_ne_nil (l := (tryVisit rest fails).1)
          fun hh => by rw [hh] at h3b; cases h3b
        simp only [hat] at h3b h3c ⊢
        exact ⟨h3a, by rw [List.getLast?_cons_cons]; exact h3b,
          by rw [List.dropLast_cons_cons]; exact List.forall_mem_cons.mpr ⟨hx, h3c⟩⟩

example : tryVisit [0, 1, 2, 3] [2, 3] = ([0, 1, 2], some 2) := by decide
example : tryVisit [0, 1, 2, 3] [] = ([0, 1, 2, 3], none) := by decide

/-- the run-time preload (`fns_no_predecessors`): every function without predecessors exactly once -/
theorem preload_roots {c : Cfg} (hg : GoodG c.D) (hcnt : ∀ v, c.counts0[v]?.getD 0 = (parents c.D v).length) :
    (preload c).Nodup ∧ ∀ v, v ∈ preload c ↔ (v < c.D.n ∧ parents c.D v = []) := by
  have hp := topo_perm hg
  unfold preload
  refine ⟨(hp.nodup_iff.mpr List.nodup_range).filter _, ?_⟩
  intro v
  simp only [List.mem_filter, beq_iff_eq, hcnt v, List.length_eq_zero_iff]
  rw [hp.mem_iff, List.mem_range]

example : preload { D := ⟨4, [⟨0, 2, .logic⟩, ⟨1, 2, .data⟩, ⟨2, 3, .logic⟩]⟩, counts0 := [0, 0, 2, 1] } = [1, 0] := by
  decide

end FG
