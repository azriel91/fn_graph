/-
  Theorems/SpecFast.lean — the bit-mask forms of the C11/C12 predicates (`Model/Spec.lean`,
  used by the driver for graphs with more than 34 functions) agree with the BFS forms on every
  well-formed graph whose order passes `topoOrderB` (a check the fast predicates perform
  themselves, and which implies acyclicity): along the reversed order `reachMasks` is `ReachP`.
  The MODEL satisfies both fast predicates for every input, with `topoOrd := topo G.graph`.
-/
import FnGraphVerif.Theorems.SpecLink
import FnGraphVerif.Proofs.ReachMasks
namespace FG

/-- the mask of every node is exactly its set of strict descendants -/
theorem reachMasks_spec_all {g : Dag} (hwf : WF g) {ord : List Nat} (h : topoOrderB g ord = true)
    {u : Nat} (hu : u < g.n) (v : Nat) :
    maskBit (reachMasks g ord.reverse) u v = true ↔ ReachP g u v := by
  unfold maskBit
  exact (maskInv_reachMasks hwf h).2 u (List.mem_reverse.mpr ((topoOrderB_mem_iff h).mpr hu)) v

/-- (the bound on `v` is not needed: `reachMasks_spec_all`) -/
theorem reachMasks_spec {g : Dag} (hwf : WF g) {ord : List Nat} (h : topoOrderB g ord = true) :
    ∀ u v, u < g.n → v < g.n → (maskBit (reachMasks g ord.reverse) u v = true ↔ ReachP g u v) :=
  fun _ v hu _ => reachMasks_spec_all hwf h hu v

/-- the mask list has one entry per node -/
theorem reachMasks_length {g : Dag} (hwf : WF g) {ord : List Nat} (h : topoOrderB g ord = true) :
    (reachMasks g ord.reverse).length = g.n := (maskInv_reachMasks hwf h).1

/-- the masks agree with the BFS-based `reachPlus` of `Model/Spec.lean` -/
theorem maskBit_eq_reachPlus {g : Dag} (hg : GoodG g) {ord : List Nat} (h : topoOrderB g ord = true)
    {u : Nat} (hu : u < g.n) (v : Nat) :
    maskBit (reachMasks g ord.reverse) u v = reachPlus g u v := by
  rw [Bool.eq_iff_iff, reachMasks_spec_all hg.wf h hu, reachPlus_iff hg hu]

/-- between distinct nodes the masks agree with the (reflexive) path test -/
theorem maskBit_eq_hasPath {g : Dag} (hwf : WF g) {ord : List Nat} (h : topoOrderB g ord = true)
    {u v : Nat} (hu : u < g.n) (huv : u ≠ v) :
    maskBit (reachMasks g ord.reverse) u v = hasPath g u v := by
  rw [Bool.eq_iff_iff, reachMasks_spec_all hwf h hu, hasPath_iff_reach hwf hu]
  constructor
  · exact Reach.of_reachP
  · intro hr
    rcases hr.eq_or_reachP with heq | hp
    · exact absurd heq huv
    · exact hp

-- non-vacuity: the diamond `0 → {1, 2} → 3` with order `[0, 1, 2, 3]`; masks are computed along `[3, 2, 1, 0]`
def exDia_Y : Dag := ⟨4, [⟨0, 1, .logic⟩, ⟨0, 2, .logic⟩, ⟨1, 3, .data⟩, ⟨2, 3, .logic⟩]⟩
theorem exDia_wf_Y : WF exDia_Y :=
  (goodG_of_increasing (by decide) (by decide)).wf
example : topoOrderB exDia_Y [0, 1, 2, 3] = true ∧ topoOrderB exDia_Y [0, 2, 1, 3] = true ∧
    topoOrderB exDia_Y (topo exDia_Y) = true := by decide
example : reachMasks exDia_Y [3, 2, 1, 0] = [14, 8, 8, 0] := by decide
example : reachMasks exDia_Y [0, 1, 2, 3].reverse = [14, 8, 8, 0] ∧
    reachMasks exDia_Y [0, 2, 1, 3].reverse = [14, 8, 8, 0] := by decide
example : maskBit (reachMasks exDia_Y [0, 1, 2, 3].reverse) 0 3 = true ∧
    maskBit (reachMasks exDia_Y [0, 1, 2, 3].reverse) 1 2 = false ∧
    maskBit (reachMasks exDia_Y [0, 1, 2, 3].reverse) 3 0 = false ∧
    maskBit (reachMasks exDia_Y [0, 1, 2, 3].reverse) 2 2 = false := by decide
example : ReachP exDia_Y 0 3 :=
  (reachMasks_spec exDia_wf_Y (ord := [0, 1, 2, 3]) (by decide) 0 3 (by decide) (by decide)).mp (by decide)
example : ¬ ReachP exDia_Y 1 2 := fun hr =>
  absurd ((reachMasks_spec exDia_wf_Y (ord := [0, 1, 2, 3]) (by decide) 1 2 (by decide) (by decide)).mpr hr) (by decide)
-- the order matters: along a NON-topological order (parents first) the masks miss the two-step path `0 ⇝ 3`
example : topoOrderB exDia_Y [3, 2, 1, 0] = false ∧
    maskBit (reachMasks exDia_Y [3, 2, 1, 0].reverse) 0 3 = false ∧ reachPlus exDia_Y 0 3 = true := by decide

/-- needs no well-formedness -/
theorem topoOrderB_acyclic_prop {g : Dag} {ord : List Nat} (h : topoOrderB g ord = true) : Acyclic g :=
  (topoOrderB_fwd h).acyclic

theorem topoOrderB_acyclic {g : Dag} (hwf : WF g) {ord : List Nat} (h : topoOrderB g ord = true) :
    isAcyclicB g = true :=
  (isAcyclicB_iff hwf).mpr (topoOrderB_acyclic_prop h)

/-- along a valid order strict reachability goes forward -/
theorem topoOrderB_reachP_lt {g : Dag} {ord : List Nat} (h : topoOrderB g ord = true) {u v : Nat}
    (hr : ReachP g u v) : idxOf ord u < idxOf ord v := (topoOrderB_fwd h).reachP hr

example : isAcyclicB exDia_Y = true := topoOrderB_acyclic exDia_wf_Y (ord := [0, 2, 1, 3]) (by decide)
-- contrapositive on the well-formed 3-cycle `exCyc_K`: no arrangement of its nodes is a valid order
example : isAcyclicB exCyc_K = false ∧ topoOrderB exCyc_K [0, 1, 2] = false ∧
    topoOrderB exCyc_K [1, 2, 0] = false ∧ topoOrderB exCyc_K [2, 0, 1] = false := by decide
example (ord : List Nat) : topoOrderB exCyc_K ord = false := by
  cases h : topoOrderB exCyc_K ord with
  | false => rfl
  | true => exact absurd (topoOrderB_acyclic exCyc_wf_K h) (by decide)

theorem builtSoundFastB_iff {decls : List FnDecl} {user : List Edge} {built : Dag} {ord : List Nat}
    (hwf : WF built) (ht : topoOrderB built ord = true) :
    builtSoundFastB decls user built ord = builtSoundB decls user built := by
  simp only [builtSoundFastB, builtSoundB, ht, topoOrderB_acyclic hwf ht]
  congr 1
  refine all_range2_congr fun u hu v hv => ?_
  by_cases huv : u = v
  · simp [huv]
  · rw [maskBit_eq_hasPath hwf ht hu huv, maskBit_eq_hasPath hwf ht hv (Ne.symm huv)]

/-- without assuming the order check: the fast predicate implies the BFS one on every well-formed graph -/
theorem builtSoundB_of_fast {decls : List FnDecl} {user : List Edge} {built : Dag} {ord : List Nat}
    (hwf : WF built) (h : builtSoundFastB decls user built ord = true) :
    builtSoundB decls user built = true := by
  have ht : topoOrderB built ord = true := by
    simp only [builtSoundFastB, Bool.and_eq_true] at h
    exact h.1.2
  rw [← builtSoundFastB_iff hwf ht]; exact h

/-- conversely, given any valid order of the observed graph -/
theorem builtSoundFastB_of_builtSoundB {decls : List FnDecl} {user : List Edge} {built : Dag} {ord : List Nat}
    (hwf : WF built) (ht : topoOrderB built ord = true) (h : builtSoundB decls user built = true) :
    builtSoundFastB decls user built ord = true := by
  rw [builtSoundFastB_iff hwf ht]; exact h

/-- WF is NOT implied by the conjuncts of the predicates (`topoOrderB` bounds sources only): an edge
    to a node outside the graph passes the order check -/
example : topoOrderB ⟨2, [⟨0, 1, .logic⟩, ⟨1, 7, .logic⟩]⟩ [0, 1] = true := by decide

-- non-vacuity on the 4-function example build `exG_D2` (edges 0→2, 2→3, data 0→1)
theorem exG_wf_D2_Y : WF exG_D2.graph :=
  (build_sound exB_reach_D2 exG_build_D2).2.2.2.2.1.wf
theorem exG_topo_D2_Y : topoOrderB exG_D2.graph [0, 1, 2, 3] = true := by decide
example : builtSoundFastB exB_D2.fns exB_D2.edges exG_D2.graph [0, 1, 2, 3]
    = builtSoundB exB_D2.fns exB_D2.edges exG_D2.graph :=
  builtSoundFastB_iff exG_wf_D2_Y exG_topo_D2_Y
-- accepted with either valid order; refused: a non-order, the data edge dropped (conflicting pair
-- (0,1) left unordered), the data edge relabelled
example : builtSoundFastB exB_D2.fns exB_D2.edges exG_D2.graph [0, 1, 2, 3] = true ∧
    builtSoundFastB exB_D2.fns exB_D2.edges exG_D2.graph [0, 2, 3, 1] = true ∧
    builtSoundFastB exB_D2.fns exB_D2.edges exG_D2.graph [1, 0, 2, 3] = false ∧
    builtSoundFastB exB_D2.fns exB_D2.edges ⟨4, [⟨0, 2, .logic⟩, ⟨2, 3, .contains⟩]⟩ [0, 1, 2, 3] = false ∧
    builtSoundB exB_D2.fns exB_D2.edges ⟨4, [⟨0, 2, .logic⟩, ⟨2, 3, .contains⟩]⟩ = false ∧
    builtSoundFastB exB_D2.fns exB_D2.edges ⟨4, [⟨0, 2, .logic⟩, ⟨2, 3, .contains⟩, ⟨0, 1, .logic⟩]⟩ [0, 1, 2, 3] = false :=
  have hS := build_builtSoundB exB_reach_D2 exG_build_D2
  have h4 : builtSoundFastB exB_D2.fns exB_D2.edges ⟨4, [⟨0, 2, .logic⟩, ⟨2, 3, .contains⟩]⟩ [0, 1, 2, 3] = false := by decide
  ⟨builtSoundFastB_of_builtSoundB exG_wf_D2_Y exG_topo_D2_Y hS, builtSoundFastB_of_builtSoundB exG_wf_D2_Y (by decide) hS,
    by decide, h4, (builtSoundFastB_iff (breach_good exB_reach_D2).1.wf (by decide)).symm.trans h4, by decide⟩

/-- a 5-function example: `0` writes type 1, `1`/`2` read it, `3` writes type 2, `4` reads 1 and
    writes 2; user edges `0 → 1`, `0 → 2`, `1 → 3`; data edges `0 → 4`, `3 → 4` -/
def exDecls5_Y : List FnDecl := [⟨[], [1], 0⟩, ⟨[1], [], 1⟩, ⟨[1], [], 2⟩, ⟨[], [2], 3⟩, ⟨[1], [2], 4⟩]
def exUser5_Y : List Edge := [⟨0, 1, .logic⟩, ⟨0, 2, .contains⟩, ⟨1, 3, .logic⟩]
def exBuilt5_Y : Dag := ⟨5, exUser5_Y ++ [⟨0, 4, .data⟩, ⟨3, 4, .data⟩]⟩
theorem exBuilt5_good_Y : GoodG exBuilt5_Y := goodG_of_increasing (by decide) (by decide)
theorem exBuilt5_wf_Y : WF exBuilt5_Y := exBuilt5_good_Y.wf
example : builtSoundFastB exDecls5_Y exUser5_Y exBuilt5_Y (topo exBuilt5_Y) = true ∧
    builtSoundB exDecls5_Y exUser5_Y exBuilt5_Y = true ∧
    -- the conflicting pair (3,4) left unordered
    builtSoundFastB exDecls5_Y exUser5_Y ⟨5, exUser5_Y ++ [⟨0, 4, .data⟩]⟩ [0, 1, 2, 3, 4] = false ∧
    builtSoundB exDecls5_Y exUser5_Y ⟨5, exUser5_Y ++ [⟨0, 4, .data⟩]⟩ = false ∧
    -- a data edge between functions that do not conflict
    builtSoundFastB exDecls5_Y exUser5_Y ⟨5, exUser5_Y ++ [⟨0, 4, .data⟩, ⟨3, 4, .data⟩, ⟨1, 2, .data⟩]⟩
      [0, 1, 2, 3, 4] = false :=
  have h2 := builtSoundB_of_fast exBuilt5_wf_Y (ord := [0, 1, 2, 3, 4]) (by decide)
  ⟨builtSoundFastB_of_builtSoundB exBuilt5_wf_Y (topo_topoOrderB exBuilt5_good_Y) h2, h2, by decide,
    builtSoundB_false_of_unjoined (u := 3) (v := 4) (by decide) (by decide) (by decide), by decide⟩
example : builtSoundFastB exDecls5_Y exUser5_Y exBuilt5_Y [0, 2, 1, 3, 4] = builtSoundB exDecls5_Y exUser5_Y exBuilt5_Y :=
  builtSoundFastB_iff exBuilt5_wf_Y (by decide)

/-- the first conjunct of `builtOrderB`, verbatim -/
def builtDirectionB (decls : List FnDecl) (user : List Edge) (built : Dag) (ranks : List Nat) : Bool :=
  let U : Dag := ⟨built.n, user⟩
  (List.range built.n).all (fun u => (List.range built.n).all (fun v =>
      u == v || !conflict (declOf decls u) (declOf decls v) || hasPath U u v || hasPath U v u
      || (let ru := ranks[u]?.getD 0; let rv := ranks[v]?.getD 0
          let first := decide (ru < rv) || (ru == rv && decide (u < v))
          if first then hasPath built u v else hasPath built v u)))

/-- the second conjunct of `builtOrderB`, verbatim -/
def builtNonRedundantB (built : Dag) : Bool :=
  (List.range built.edges.length).all (fun i =>
      match built.edges[i]? with
      | none => true
      | some e => e.kind != .data || !hasPath ⟨built.n, built.edges.eraseIdx i⟩ e.src e.tgt)

theorem builtOrderB_eq (decls : List FnDecl) (user : List Edge) (built : Dag) (ranks : List Nat) :
    builtOrderB decls user built ranks = (builtDirectionB decls user built ranks && builtNonRedundantB built) := rfl

theorem builtDirectionFastB_iff {decls : List FnDecl} {user : List Edge} {built : Dag} {ranks ord uord : List Nat}
    (hwf : WF built) (hwfU : WF ⟨built.n, user⟩)
    (ht : topoOrderB built ord = true) (htU : topoOrderB ⟨built.n, user⟩ uord = true) :
    builtDirectionFastB decls user built ranks ord uord = builtDirectionB decls user built ranks := by
  simp only [builtDirectionFastB, builtDirectionB, ht, htU, Bool.true_and]
  refine all_range2_congr fun u hu v hv => ?_
  by_cases huv : u = v
  · simp [huv]
  · rw [maskBit_eq_hasPath hwf ht hu huv, maskBit_eq_hasPath hwf ht hv (Ne.symm huv),
      maskBit_eq_hasPath (g := ⟨built.n, user⟩) hwfU htU hu huv,
      maskBit_eq_hasPath (g := ⟨built.n, user⟩) hwfU htU hv (Ne.symm huv)]

theorem builtDirectionFastB_of_builtOrderB {decls : List FnDecl} {user : List Edge} {built : Dag}
    {ranks ord uord : List Nat} (hwf : WF built) (hwfU : WF ⟨built.n, user⟩)
    (ht : topoOrderB built ord = true) (htU : topoOrderB ⟨built.n, user⟩ uord = true)
    (h : builtOrderB decls user built ranks = true) :
    builtDirectionFastB decls user built ranks ord uord = true := by
  rw [builtOrderB_eq, Bool.and_eq_true] at h
  rw [builtDirectionFastB_iff hwf hwfU ht htU]; exact h.1

/-- conversely: the fast check gives the first conjunct of `builtOrderB` (the order checks are part of
    the fast predicate, so only well-formedness is assumed) -/
theorem builtDirectionB_of_fast {decls : List FnDecl} {user : List Edge} {built : Dag}
    {ranks ord uord : List Nat} (hwf : WF built) (hwfU : WF ⟨built.n, user⟩)
    (h : builtDirectionFastB decls user built ranks ord uord = true) :
    builtDirectionB decls user built ranks = true := by
  have ht : topoOrderB built ord = true ∧ topoOrderB ⟨built.n, user⟩ uord = true := by
    simp only [builtDirectionFastB, Bool.and_eq_true] at h
    exact h.1
  rw [← builtDirectionFastB_iff hwf hwfU ht.1 ht.2]; exact h

/-- both halves together give `builtOrderB` back -/
theorem builtOrderB_of_fast {decls : List FnDecl} {user : List Edge} {built : Dag}
    {ranks ord uord : List Nat} (hwf : WF built) (hwfU : WF ⟨built.n, user⟩)
    (h : builtDirectionFastB decls user built ranks ord uord = true) (hnr : builtNonRedundantB built = true) :
    builtOrderB decls user built ranks = true := by
  rw [builtOrderB_eq, Bool.and_eq_true]
  exact ⟨builtDirectionB_of_fast hwf hwfU h, hnr⟩

-- non-vacuity on `exG_D2` (ranks `[0,0,1,2]`): accepted; the opposite direction `1 → 0` of the data edge refused
theorem exU_wf_D2_Y : WF ⟨exG_D2.graph.n, exB_D2.edges⟩ :=
  (breach_good exB_reach_D2).1.wf
theorem exU_topo_D2_Y : topoOrderB ⟨exG_D2.graph.n, exB_D2.edges⟩ [1, 0, 2, 3] = true := by decide
example : builtDirectionFastB exB_D2.fns exB_D2.edges exG_D2.graph exG_D2.ranks [0, 1, 2, 3] [1, 0, 2, 3] = true :=
  builtDirectionFastB_of_builtOrderB exG_wf_D2_Y exU_wf_D2_Y exG_topo_D2_Y exU_topo_D2_Y
    (build_builtOrderB exB_reach_D2 exG_build_D2)
example : builtDirectionFastB exB_D2.fns exB_D2.edges exG_D2.graph exG_D2.ranks [0, 1, 2, 3] [1, 0, 2, 3] = true ∧
    builtDirectionB exB_D2.fns exB_D2.edges exG_D2.graph exG_D2.ranks = true ∧
    builtDirectionFastB exB_D2.fns exB_D2.edges ⟨4, [⟨0, 2, .logic⟩, ⟨2, 3, .contains⟩, ⟨1, 0, .data⟩]⟩
      exG_D2.ranks [1, 0, 2, 3] [0, 1, 2, 3] = false ∧
    builtDirectionB exB_D2.fns exB_D2.edges ⟨4, [⟨0, 2, .logic⟩, ⟨2, 3, .contains⟩, ⟨1, 0, .data⟩]⟩ exG_D2.ranks = false ∧
    -- a wrong user order is refused as well
    builtDirectionFastB exB_D2.fns exB_D2.edges exG_D2.graph exG_D2.ranks [0, 1, 2, 3] [3, 2, 1, 0] = false :=
  have hO := build_builtOrderB exB_reach_D2 exG_build_D2
  ⟨builtDirectionFastB_of_builtOrderB exG_wf_D2_Y exU_wf_D2_Y exG_topo_D2_Y exU_topo_D2_Y hO,
    (Bool.and_eq_true_iff.mp ((builtOrderB_eq ..).symm.trans hO)).1, by decide, by decide, by decide⟩
-- the 5-function graph with ranks `[0,1,1,2,0]`: `0 → 4` is forced by the index tie-break, `3 → 4` is against
-- the ranks (4 has rank 0 < 2) and refused; with ranks `[0,1,1,2,3]` it is accepted
example : builtDirectionFastB exDecls5_Y exUser5_Y exBuilt5_Y [0, 1, 1, 2, 3] (topo exBuilt5_Y) (topo ⟨5, exUser5_Y⟩) = true ∧
    builtDirectionFastB exDecls5_Y exUser5_Y exBuilt5_Y [0, 1, 1, 2, 0] (topo exBuilt5_Y) (topo ⟨5, exUser5_Y⟩) = false ∧
    builtDirectionB exDecls5_Y exUser5_Y exBuilt5_Y [0, 1, 1, 2, 0] = false :=
  have hU : GoodG ⟨5, exUser5_Y⟩ := goodG_of_increasing (by decide) (by decide)
  have e := fun r => builtDirectionFastB_iff (decls := exDecls5_Y) (ranks := r) exBuilt5_wf_Y hU.wf
    (topo_topoOrderB exBuilt5_good_Y) (topo_topoOrderB hU)
  ⟨(e _).trans (by decide), (e _).trans (by decide), by decide⟩

theorem build_builtSoundFastB {b : BState} (h : BReach b) {G : FnGraph} (hb : build b = some G) :
    builtSoundFastB b.fns b.edges G.graph (topo G.graph) = true := by
  have hgood : GoodG G.graph := (build_sound h hb).2.2.2.2.1
  rw [builtSoundFastB_iff hgood.wf (topo_topoOrderB hgood)]
  exact build_builtSoundB h hb

theorem build_userGraph_eq {b : BState} (h : BReach b) {G : FnGraph} (hb : build b = some G) :
    (⟨G.graph.n, b.edges⟩ : Dag) = b.graph := by
  rw [(build_sound h hb).2.1]; rfl

theorem build_builtDirectionFastB {b : BState} (h : BReach b) {G : FnGraph} (hb : build b = some G) :
    builtDirectionFastB b.fns b.edges G.graph G.ranks (topo G.graph) (topo ⟨G.graph.n, b.edges⟩) = true := by
  have hgood : GoodG G.graph := (build_sound h hb).2.2.2.2.1
  have hU : GoodG ⟨G.graph.n, b.edges⟩ := by rw [build_userGraph_eq h hb]; exact (breach_good h).1
  exact builtDirectionFastB_of_builtOrderB hgood.wf hU.wf (topo_topoOrderB hgood) (topo_topoOrderB hU)
    (build_builtOrderB h hb)

/-- the same with the user order taken on the builder's own graph -/
theorem build_builtDirectionFastB' {b : BState} (h : BReach b) {G : FnGraph} (hb : build b = some G) :
    builtDirectionFastB b.fns b.edges G.graph G.ranks (topo G.graph) (topo b.graph) = true := by
  rw [← build_userGraph_eq h hb]; exact build_builtDirectionFastB h hb

-- non-vacuity: the 4-function example build
example : builtSoundFastB exB_D2.fns exB_D2.edges exG_D2.graph (topo exG_D2.graph) = true :=
  build_builtSoundFastB exB_reach_D2 exG_build_D2
example : builtDirectionFastB exB_D2.fns exB_D2.edges exG_D2.graph exG_D2.ranks (topo exG_D2.graph)
    (topo ⟨exG_D2.graph.n, exB_D2.edges⟩) = true :=
  build_builtDirectionFastB exB_reach_D2 exG_build_D2
example : topo exG_D2.graph = [1, 0, 2, 3] ∨ topo exG_D2.graph = [0, 1, 2, 3] ∨ topo exG_D2.graph = [0, 2, 3, 1] ∨
    topo exG_D2.graph = [0, 2, 1, 3] := by decide

end FG
