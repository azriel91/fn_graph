/-
  Theorems/C13.lean — `ranks()` is the longest dependency chain ending at each function
  (and, for C18, the rank loop does polynomial work).
-/
import FnGraphVerif.Model.RankCalc
import FnGraphVerif.Proofs.ListFacts
import FnGraphVerif.Proofs.Fwd
import FnGraphVerif.Proofs.EdgePairs
import FnGraphVerif.Model.Spec
namespace FG

/-- a walk with exactly `k` edges -/
inductive Walk (g : Dag) : Nat → Nat → Nat → Prop
  | nil (a) : Walk g a a 0
  | snoc {a w b k} : Walk g a w k → IsEdge g w b → Walk g a b (k + 1)

/-- `r` is the number of edges of the longest chain ending at `v` -/
def IsLongestChain (g : Dag) (v r : Nat) : Prop :=
  (∃ a, Walk g a v r) ∧ ∀ a k, Walk g a v k → k ≤ r

theorem Fwd.walk {g : Dag} {f : Nat → Nat} (hf : Fwd g f) {a v k : Nat} (h : Walk g a v k) :
    f a + k ≤ f v := by
  induction h with
  | nil => exact Nat.le_refl _
  | snoc _ he ih => have := hf _ _ he; omega

theorem Walk.lt_n {g : Dag} (hwf : WF g) (hac : Acyclic g) {a v k : Nat} (h : Walk g a v k) (hv : v < g.n) :
    k < g.n := by
  obtain ⟨f, hf, hb⟩ := exists_fwd hwf hac
  have := hf.walk h
  have := hb v hv
  omega

theorem Walk.congr {g g' : Dag} (he : ∀ u v, IsEdge g u v → IsEdge g' u v) {a v k : Nat}
    (h : Walk g a v k) : Walk g' a v k := by
  induction h with
  | nil => exact Walk.nil _
  | snoc _ hed ih => exact Walk.snoc ih (he _ _ hed)

theorem IsLongestChain.unique {g : Dag} {v r r' : Nat} (h : IsLongestChain g v r) (h' : IsLongestChain g v r') :
    r = r' := by
  obtain ⟨⟨a, ha⟩, hm⟩ := h
  obtain ⟨⟨a', ha'⟩, hm'⟩ := h'
  have := hm _ _ ha'
  have := hm' _ _ ha
  omega

theorem IsLongestChain.congr {g g' : Dag} (he : ∀ u v, IsEdge g u v ↔ IsEdge g' u v) {v r : Nat}
    (h : IsLongestChain g v r) : IsLongestChain g' v r :=
  ⟨h.1.imp fun _ ha => ha.congr fun u v => (he u v).mp,
    fun a k hw => h.2 a k (hw.congr fun u v => (he u v).mpr)⟩

theorem relaxChild_lt {r : Nat} {rk q : List Nat} {c : Nat} (h : rk[c]?.getD 0 < r) :
    relaxChild false r (rk, q) c = (rk.set c r, q ++ [c]) := by
  simp [relaxChild, h]

theorem relaxChild_ge {r : Nat} {rk q : List Nat} {c : Nat} (h : ¬ rk[c]?.getD 0 < r) :
    relaxChild false r (rk, q) c = (rk, q) := by
  simp [relaxChild, h]

/-- what folding `relaxChild false r` over `cs` does to ranks `rk` and queue `q`.  `chg`: a rank is
    unchanged, or is now `r` and the node is a child that was queued; `ge`: every child ends at `≥ r`;
    `pot`: every push is paid for by a rank increase -/
structure RelaxSpec (r : Nat) (cs rk q rk' q' : List Nat) : Prop where
  len : rk'.length = rk.length
  mono : ∀ x : Nat, rk[x]?.getD 0 ≤ rk'[x]?.getD 0
  chg : ∀ x : Nat, rk'[x]?.getD 0 = rk[x]?.getD 0 ∨ (rk'[x]?.getD 0 = r ∧ x ∈ cs ∧ x ∈ q')
  ge : ∀ x ∈ cs, r ≤ rk'[x]?.getD 0
  sub : ∀ x ∈ q, x ∈ q'
  pot : q'.length + rk.sum ≤ q.length + rk'.sum

theorem relaxFold_spec (r : Nat) (cs rk q : List Nat) (hb : ∀ c ∈ cs, c < rk.length) :
    RelaxSpec r cs rk q (cs.foldl (relaxChild false r) (rk, q)).1 (cs.foldl (relaxChild false r) (rk, q)).2 := by
  refine foldl_inv (f := relaxChild false r) (fun pre st => RelaxSpec r pre rk q st.1 st.2) cs (rk, q)
    ⟨rfl, fun _ => Nat.le_refl _, fun _ => Or.inl rfl, (fun x hx => nomatch hx), fun _ h => h, Nat.le_refl _⟩ ?_
  rintro p c _ ⟨rk', q'⟩ hsplit S
  have S : RelaxSpec r p rk q rk' q' := S
  have hcp : c ∈ p ++ [c] := List.mem_append_right _ (List.mem_singleton_self _)
  have hc : c < rk'.length := S.len ▸ hb c (hsplit ▸ List.mem_append_right _ List.mem_cons_self)
  have hmem : ∀ {x}, x ∈ p → x ∈ p ++ [c] := fun h => List.mem_append_left _ h
  have hq : ∀ {x}, x ∈ q' → x ∈ q' ++ [c] := fun h => List.mem_append_left _ h
  by_cases hlt : rk'[c]?.getD 0 < r
  · -- the rank of `c` rises to `r` and `c` is queued
    rw [relaxChild_lt hlt]
    refine ⟨(List.length_set ..).trans S.len, fun x => ?_, fun x => ?_, fun x hx => ?_, fun x hx => hq (S.sub x hx), ?_⟩
    · have := S.mono x
      show _ ≤ (rk'.set c r)[x]?.getD 0
      rw [getD_set_of_lt _ _ _ hc]; split
      · subst x; exact Nat.le_trans this (Nat.le_of_lt hlt)
      · exact this
    · show (rk'.set c r)[x]?.getD 0 = _ ∨ (rk'.set c r)[x]?.getD 0 = r ∧ _
      rw [getD_set_of_lt _ _ _ hc]; split
      · subst x; exact Or.inr ⟨rfl, hcp, List.mem_append_right _ (List.mem_singleton_self _)⟩
      · exact (S.chg x).imp id fun ⟨h1, h2, h3⟩ => ⟨h1, hmem h2, hq h3⟩
    · show r ≤ (rk'.set c r)[x]?.getD 0
      rw [getD_set_of_lt _ _ _ hc]; split
      · exact Nat.le_refl _
      · rcases List.mem_append.mp hx with h | h
        · exact S.ge x h
        · exact absurd (List.mem_singleton.mp h) ‹_›
    · have := S.pot
      have := sum_set_add rk' c r hc
      show (q' ++ [c]).length + _ ≤ _ + (rk'.set c r).sum
      rw [List.length_append, List.length_singleton]
      omega
  · rw [relaxChild_ge hlt]
    refine ⟨S.len, S.mono, fun x => (S.chg x).imp id fun ⟨h1, h2, h3⟩ => ⟨h1, hmem h2, h3⟩, fun x hx => ?_, S.sub, S.pot⟩
    rcases List.mem_append.mp hx with h | h
    · exact S.ge x h
    · rw [List.mem_singleton.mp h]; exact Nat.le_of_not_lt hlt

structure RInv (g : Dag) (st : RankSt) : Prop where
  len : st.ranks.length = g.n
  wit : ∀ v : Nat, ∃ a, Walk g a v (st.ranks[v]?.getD 0)
  -- `w` is queued, or its out-edges are relaxed, or it was never queued: rank 0 and a parent (its
  -- out-edges are relaxed at exit because the parent's are, by induction along the edges: `rinv_exit`)
  settled : ∀ w : Nat, w ∈ st.queue
      ∨ (∀ c, IsEdge g w c → st.ranks[w]?.getD 0 + 1 ≤ st.ranks[c]?.getD 0)
      ∨ (st.ranks[w]?.getD 0 = 0 ∧ ∃ p, IsEdge g p w)
  -- every push is paid for by a rank increase (C18)
  pot : st.pops + st.queue.length ≤ (roots g).length + st.ranks.sum

theorem rinv_init {g : Dag} (hwf : WF g) : RInv g (rankInit g) := by
  refine ⟨by simp [rankInit], ?_, ?_, by simp [rankInit]⟩
  · intro v; simp only [rankInit, getD_replicate_zero]; exact ⟨v, Walk.nil v⟩
  · intro w
    simp only [rankInit, getD_replicate_zero]
    by_cases hp : ∃ p, IsEdge g p w
    · exact Or.inr (Or.inr ⟨trivial, hp⟩)
    · by_cases hw : w < g.n
      · exact Or.inl (mem_roots.mpr ⟨hw, fun p he => hp ⟨p, he⟩⟩)
      · exact Or.inr (Or.inl fun c hc => absurd (hc.lt hwf).1 hw)

theorem rinv_pop {g : Dag} (hwf : WF g) (hac : Acyclic g) {st : RankSt} (hi : RInv g st) {u : Nat} {rest : List Nat}
    (hq : st.queue = u :: rest) : RInv g (rankPop false g st u rest) := by
  have hb : ∀ c ∈ children g u, c < st.ranks.length := by
    intro c hc; rw [hi.len]; exact ((mem_children.mp hc).lt hwf).2
  -- all that is used of one pop: the relational specification of its fold, and the counter
  have S : RelaxSpec (st.ranks[u]?.getD 0 + 1) (children g u) st.ranks rest
      (rankPop false g st u rest).ranks (rankPop false g st u rest).queue := relaxFold_spec _ _ _ _ hb
  have hp : (rankPop false g st u rest).pops = st.pops + 1 := rfl
  generalize rankPop false g st u rest = st' at S hp ⊢
  have hu : st'.ranks[u]?.getD 0 = st.ranks[u]?.getD 0 := by
    rcases S.chg u with h | ⟨_, h, _⟩
    · exact h
    · exact absurd (ReachP.edge (mem_children.mp h)) (hac u)
  refine ⟨by rw [S.len, hi.len], fun v => ?_, fun w => ?_, ?_⟩
  · rcases S.chg v with h | ⟨h, hv, _⟩
    · rw [h]; exact hi.wit v
    · rw [h]; exact (hi.wit u).imp fun a ha => Walk.snoc ha (mem_children.mp hv)
  · by_cases hwu : w = u
    · subst hwu
      exact Or.inr (Or.inl fun c hc => hu ▸ S.ge c (mem_children.mpr hc))
    · rcases S.chg w with hsame | ⟨_, _, hin⟩
      · rcases hi.settled w with h | h | h
        · rw [hq] at h
          rcases List.mem_cons.mp h with h | h
          · exact absurd h hwu
          · exact Or.inl (S.sub w h)
        · exact Or.inr (Or.inl fun c hc => hsame ▸ Nat.le_trans (h c hc) (S.mono c))
        · exact Or.inr (Or.inr (hsame ▸ h))
      · exact Or.inl hin
  · have h1 := hi.pot
    have h2 := S.pot
    rw [hq] at h1
    simp only [List.length_cons] at h1
    omega

theorem RInv.rank_le {g : Dag} (hwf : WF g) (hac : Acyclic g) {st : RankSt} (hi : RInv g st) (v : Nat) :
    st.ranks[v]?.getD 0 ≤ g.n - 1 := by
  by_cases hv : v < g.n
  · obtain ⟨a, ha⟩ := hi.wit v
    exact Nat.le_sub_one_of_lt (ha.lt_n hwf hac hv)
  · rw [List.getElem?_eq_none (by rw [hi.len]; omega)]; exact Nat.zero_le _

theorem rinv_bound {g : Dag} (hwf : WF g) (hac : Acyclic g) {st : RankSt} (hi : RInv g st) :
    st.pops + st.queue.length ≤ g.n * g.n := by
  have h1 := hi.pot
  have h2 : (roots g).length ≤ g.n := by
    have := List.length_filter_le (isRoot g) (List.range g.n)
    rwa [List.length_range] at this
  have h3 := sum_le_of_bound st.ranks (g.n - 1) (hi.rank_le hwf hac)
  rw [hi.len, Nat.mul_sub_one] at h3
  have := Nat.le_mul_self g.n
  omega

theorem rankLoop_ok {g : Dag} (hwf : WF g) (hac : Acyclic g) : ∀ (fuel : Nat) (st : RankSt), RInv g st →
    g.n * g.n + 1 ≤ st.pops + fuel →
    ∃ st', rankLoop false g fuel st = some st' ∧ RInv g st' ∧ st'.queue = [] := by
  intro fuel
  induction fuel with
  | zero =>
    intro st hi hf
    have := rinv_bound hwf hac hi
    omega
  | succ k ih =>
    intro st hi hf
    unfold rankLoop
    cases hq : st.queue with
    | nil => exact ⟨st, rfl, hi, hq⟩
    | cons u rest =>
      simp only
      apply ih _ (rinv_pop hwf hac hi hq)
      show g.n * g.n + 1 ≤ st.pops + 1 + k
      omega

theorem rankCalc_spec {g : Dag} (hwf : WF g) (hac : Acyclic g) :
    ∃ st, rankCalc g = some st ∧ RInv g st ∧ st.queue = [] :=
  rankLoop_ok hwf hac (rankFuel g) (rankInit g) (rinv_init hwf) (by simp only [rankFuel, rankInit]; omega)

theorem rankCalc_inv {g : Dag} (hwf : WF g) (hac : Acyclic g) {st : RankSt} (h : rankCalc g = some st) :
    RInv g st ∧ st.queue = [] := by
  obtain ⟨st', h1, h2⟩ := rankCalc_spec hwf hac
  obtain rfl := Option.some.inj (h1.symm.trans h)
  exact h2

/-- at exit every edge is relaxed: the ranks are a numbering -/
theorem rinv_exit {g : Dag} (hwf : WF g) (hac : Acyclic g) {st : RankSt} (hi : RInv g st) (hq : st.queue = []) :
    Fwd g (fun v => st.ranks[v]?.getD 0) := by
  obtain ⟨f, hf, _⟩ := exists_fwd hwf hac
  refine hf.induction (fun w => ∀ c, IsEdge g w c → st.ranks[w]?.getD 0 < st.ranks[c]?.getD 0) fun w ih => ?_
  rcases hi.settled w with h | h | ⟨h0, p, hp⟩
  · rw [hq] at h; cases h
  · exact h
  · have := ih p hp w hp
    omega

/-- diamond `0 → {1,2} → 3` with the extra chord `1 → 2`: longest chains are `0,1,2,3` -/
def exG_C : Dag := ⟨4, [⟨0,1,.logic⟩, ⟨0,2,.logic⟩, ⟨1,3,.logic⟩, ⟨2,3,.data⟩, ⟨1,2,.contains⟩]⟩
/-- the same edges added in a different order -/
def exG_C' : Dag := ⟨4, [⟨1,2,.contains⟩, ⟨2,3,.data⟩, ⟨0,2,.logic⟩, ⟨1,3,.logic⟩, ⟨0,1,.logic⟩]⟩

theorem exG_good_C : GoodG exG_C := goodG_of_increasing (by decide) (by decide)
theorem exG_C'_good : GoodG exG_C' := goodG_of_increasing (by decide) (by decide)
theorem exG_calc_C : rankCalc exG_C = some ⟨[0, 1, 2, 3], [], 6⟩ := by decide
theorem exG_C'_calc : rankCalc exG_C' = some ⟨[0, 1, 2, 3], [], 6⟩ := by decide
theorem exG_edges_C : ∀ u v, IsEdge exG_C u v ↔ IsEdge exG_C' u v :=
  fun _ _ => ⟨IsEdge.mono_edges (by decide), IsEdge.mono_edges (by decide)⟩

/-- **C13 / C18 / C11**: the rank loop never runs out of its `n² + n + 1` fuel on a good graph -/
theorem rankCalc_total {g : Dag} (hg : GoodG g) : ∃ st, rankCalc g = some st :=
  (rankCalc_spec hg.wf hg.acyclic).imp fun _ h => h.1

-- non-vacuity: the hypothesis holds of `exG_C`, and the loop indeed returns there
example : ∃ st, rankCalc exG_C = some st ∧ st.ranks = [0, 1, 2, 3] :=
  have ⟨st, h⟩ := rankCalc_total exG_good_C
  ⟨st, h, by rw [exG_calc_C] at h; cases h; rfl⟩

/-- **C13**: every rank is the length of the longest chain of edges ending at that function
    (0 exactly for functions without predecessors).  Kinds and access declarations do not occur. -/
theorem ranks_longest {g : Dag} (hg : GoodG g) {st : RankSt} (h : rankCalc g = some st) :
    st.ranks.length = g.n ∧ ∀ v, v < g.n → IsLongestChain g v (st.ranks[v]?.getD 0) := by
  obtain ⟨hi, hq⟩ := rankCalc_inv hg.wf hg.acyclic h
  refine ⟨hi.len, fun v _ => ⟨hi.wit v, ?_⟩⟩
  intro a k hw
  have := (rinv_exit hg.wf hg.acyclic hi hq).walk hw
  omega

-- non-vacuity: node 3 of `exG_C` has longest chain `0 → 1 → 2 → 3`, node 0 is a root
example : IsLongestChain exG_C 3 3 ∧ IsLongestChain exG_C 2 2 ∧ IsLongestChain exG_C 0 0 :=
  have h := (ranks_longest exG_good_C exG_calc_C).2
  ⟨h 3 (by decide), h 2 (by decide), h 0 (by decide)⟩
example : Walk exG_C 0 3 3 :=
  .snoc (.snoc (.snoc (.nil 0) ⟨⟨0,1,.logic⟩, by decide, rfl, rfl⟩) ⟨⟨1,2,.contains⟩, by decide, rfl, rfl⟩)
    ⟨⟨2,3,.data⟩, by decide, rfl, rfl⟩

/-- **C13**: the result does not depend on the order in which edges were added -/
theorem ranks_order_independent {g g' : Dag} (hg : GoodG g) (hg' : GoodG g') (hn : g.n = g'.n)
    (he : ∀ u v, IsEdge g u v ↔ IsEdge g' u v) {st st' : RankSt}
    (h : rankCalc g = some st) (h' : rankCalc g' = some st') : st.ranks = st'.ranks := by
  obtain ⟨hl, hc⟩ := ranks_longest hg h
  obtain ⟨hl', hc'⟩ := ranks_longest hg' h'
  exact list_ext_getD (by omega) fun v hv =>
    (hc v (hl ▸ hv)).unique ((hc' v (hn ▸ hl ▸ hv)).congr fun u v => (he u v).symm)

-- non-vacuity: `exG_C` and `exG_C'` have the same edges in different insertion (hence adjacency) order
example : exG_C.edges ≠ exG_C'.edges ∧ children exG_C 0 ≠ children exG_C' 0 := by decide
example : ∀ st st', rankCalc exG_C = some st → rankCalc exG_C' = some st' → st.ranks = st'.ranks :=
  fun _ _ h h' => ranks_order_independent exG_good_C exG_C'_good rfl exG_edges_C h h'

/-- ranks rise strictly along every edge (`Fwd`) -/
theorem ranks_strict {g : Dag} (hg : GoodG g) {st : RankSt} (h : rankCalc g = some st) {u v : Nat}
    (he : IsEdge g u v) : st.ranks[u]?.getD 0 < st.ranks[v]?.getD 0 := by
  obtain ⟨hi, hq⟩ := rankCalc_inv hg.wf hg.acyclic h
  exact rinv_exit hg.wf hg.acyclic hi hq u v he

-- non-vacuity: along the edge `1 → 2` of `exG_C`
example : ([0, 1, 2, 3] : List Nat)[1]?.getD 0 < ([0, 1, 2, 3] : List Nat)[2]?.getD 0 :=
  ranks_strict exG_good_C exG_calc_C (u := 1) (v := 2) ⟨⟨1,2,.contains⟩, by decide, rfl, rfl⟩

/-- **C18**: the work list is popped at most `n²` times — not once per root path -/
theorem rank_pops_le {g : Dag} (hg : GoodG g) {st : RankSt} (h : rankCalc g = some st) :
    st.pops ≤ g.n * g.n := by
  obtain ⟨hi, _⟩ := rankCalc_inv hg.wf hg.acyclic h
  have := rinv_bound hg.wf hg.acyclic hi
  omega

-- non-vacuity: 6 pops on `exG_C` (the loop before the `fix:` commit, `old = true`, needs 7: one per root path)
example : (6 : Nat) ≤ exG_C.n * exG_C.n := rank_pops_le exG_good_C exG_calc_C
example : (rankLoop true exG_C 100 (rankInit exG_C)).map (·.pops) = some 7 := by decide

theorem Walk.last {g : Dag} {a v k : Nat} (h : Walk g a v (k + 1)) : ∃ w, Walk g a w k ∧ IsEdge g w v := by
  cases h with
  | snoc hw he => exact ⟨_, hw, he⟩

theorem longestRound_length (g : Dag) (r : List Nat) : (longestRound g r).length = g.n := by
  simp [longestRound]

theorem longestRound_get (g : Dag) (r : List Nat) {v : Nat} (hv : v < g.n) :
    (longestRound g r)[v]?.getD 0 = ((parents g v).map (fun p => r[p]?.getD 0 + 1)).foldl max 0 := by
  unfold longestRound
  rw [List.getElem?_map, List.getElem?_range hv]; rfl

/-- one synchronous round turns `min i ∘ L` into `min (i+1) ∘ L`, for a numbering `L` that rises
    along every edge and is attained (`L v` is 0 or one more than `L` of some parent) -/
theorem longestRound_min {g : Dag} (hwf : WF g) {L : Nat → Nat} (hstrict : Fwd g L)
    (hwit : ∀ v, L v = 0 ∨ ∃ p, IsEdge g p v ∧ L p + 1 = L v)
    {i : Nat} {r : List Nat} (hr : ∀ v, v < g.n → r[v]?.getD 0 = min i (L v)) {v : Nat} (hv : v < g.n) :
    (longestRound g r)[v]?.getD 0 = min (i + 1) (L v) := by
  rw [longestRound_get g r hv]
  apply Nat.le_antisymm
  · refine foldl_max_le _ _ _ (Nat.zero_le _) fun x hx => ?_
    obtain ⟨p, hp, rfl⟩ := List.mem_map.mp hx
    have he := mem_parents.mp hp
    rw [hr p (he.lt hwf).1]
    exact Nat.le_min.mpr ⟨Nat.succ_le_succ (Nat.min_le_left _ _),
      Nat.le_trans (Nat.succ_le_succ (Nat.min_le_right _ _)) (hstrict p v he)⟩
  · rcases hwit v with h0 | ⟨p, he, hp⟩
    · rw [h0, Nat.min_zero]; exact Nat.zero_le _
    · refine le_foldl_max_of_mem _ _ _ (List.mem_map.mpr ⟨p, mem_parents.mpr he, ?_⟩)
      rw [hr p (he.lt hwf).1, ← hp, Nat.add_min_add_right]

theorem longestIter_min {g : Dag} (hwf : WF g) {L : Nat → Nat} (hstrict : Fwd g L)
    (hwit : ∀ v, L v = 0 ∨ ∃ p, IsEdge g p v ∧ L p + 1 = L v) :
    ∀ i, ((longestRound g)^[i] (List.replicate g.n 0)).length = g.n ∧
      ∀ v, v < g.n → ((longestRound g)^[i] (List.replicate g.n 0))[v]?.getD 0 = min i (L v)
  | 0 => ⟨List.length_replicate, fun v _ => by
      rw [Function.iterate_zero, id, getD_replicate_zero, Nat.zero_min]⟩
  | i + 1 => by
    rw [Function.iterate_succ_apply']
    exact ⟨longestRound_length _ _, fun v hv => longestRound_min hwf hstrict hwit (longestIter_min hwf hstrict hwit i).2 hv⟩

/-- the synchronous specification computes exactly the ranks of the work-list loop -/
theorem longestChains_eq_ranks {g : Dag} (hg : GoodG g) {st : RankSt} (h : rankCalc g = some st) :
    longestChains g = st.ranks := by
  obtain ⟨hi, hq⟩ := rankCalc_inv hg.wf hg.acyclic h
  have hrel := rinv_exit hg.wf hg.acyclic hi hq
  -- a positive rank is witnessed by a walk, whose last edge comes from a parent of rank one less
  have hwit : ∀ v : Nat, st.ranks[v]?.getD 0 = 0 ∨
      ∃ p, IsEdge g p v ∧ st.ranks[p]?.getD 0 + 1 = st.ranks[v]?.getD 0 := by
    intro v
    obtain ⟨a, ha⟩ := hi.wit v
    cases hk : st.ranks[v]?.getD 0 with
    | zero => exact Or.inl rfl
    | succ k =>
      rw [hk] at ha
      obtain ⟨w, hw, he⟩ := ha.last
      have h1 : st.ranks[a]?.getD 0 + k ≤ st.ranks[w]?.getD 0 := hrel.walk hw
      have h2 : st.ranks[w]?.getD 0 < st.ranks[v]?.getD 0 := hrel w v he
      exact Or.inr ⟨w, he, by omega⟩
  obtain ⟨h1, h2⟩ := longestIter_min hg.wf hrel hwit g.n
  have hit : longestChains g = (longestRound g)^[g.n] (List.replicate g.n 0) := by
    unfold longestChains; rw [List.foldl_const, List.length_range]
  rw [hit]
  refine list_ext_getD (h1.trans hi.len.symm) fun v hv => ?_
  rw [h2 v (h1 ▸ hv)]
  exact Nat.min_eq_right (Nat.le_trans (hi.rank_le hg.wf hg.acyclic v) (Nat.sub_le _ _))

/-- the independent specification used by the driver on real ranks agrees with the theorem -/
theorem longestChains_spec {g : Dag} (hg : GoodG g) :
    (longestChains g).length = g.n ∧ ∀ v, v < g.n → IsLongestChain g v ((longestChains g)[v]?.getD 0) := by
  obtain ⟨st, h⟩ := rankCalc_total hg
  rw [longestChains_eq_ranks hg h]
  exact ranks_longest hg h

example : longestChains exG_C = [0, 1, 2, 3] := by decide
example : IsLongestChain exG_C 3 ((longestChains exG_C)[3]?.getD 0) := (longestChains_spec exG_good_C).2 3 (by decide)

end FG
