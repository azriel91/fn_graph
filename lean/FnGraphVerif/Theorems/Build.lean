/-
  Theorems/Build.lean — `FnGraphBuilder::build` as a whole (C11, first halves of C01 / C06, the
  structure facts C14 needs, and the hypotheses `GoodCfg` under which every run theorem is stated).
-/
import FnGraphVerif.Theorems.C11
import FnGraphVerif.Theorems.C13
import FnGraphVerif.Theorems.C14
import FnGraphVerif.Theorems.C16
import FnGraphVerif.Proofs.ProtoInv
import FnGraphVerif.Proofs.BuildParts
namespace FG

/-- example builder: `0` writes type 1, `1` reads type 1, `2` writes type 2, `3` reads 1 and writes 2;
    logic edge `0 → 2`, contains edge `2 → 3` -/
def exOps_D2 : List Op :=
  [.addFn ⟨[], [1], 0⟩, .addFn ⟨[1], [], 1⟩, .addFn ⟨[], [2], 2⟩, .addFn ⟨[1], [2], 3⟩,
   .edge .logic 0 2, .edge .contains 2 3]

def exB_D2 : BState := exOps_D2.foldl (fun b op => (applyOp b op).1) BState.empty

theorem exB_reach_D2 : BReach exB_D2 := breach_ops exOps_D2 (by decide) BReach.empty

/-- the value of `build`, given the result of the rank loop -/
abbrev builtOf (b : BState) (rk : RankSt) : FnGraph :=
  { decls := b.fns, graph := (augment b.graph b.fns rk.ranks).g,
    struct := ⟨(augment b.graph b.fns rk.ranks).g.n, (augment b.graph b.fns rk.ranks).g.edges⟩,
    structRev := (augment b.graph b.fns rk.ranks).g.flip,
    ranks := rk.ranks, incoming := (predCounts (augment b.graph b.fns rk.ranks).g).1,
    outgoing := (predCounts (augment b.graph b.fns rk.ranks).g).2, pops := rk.pops,
    pathChecks := (augment b.graph b.fns rk.ranks).checks }

/-- on a reachable builder state `build` succeeds, and this is its value: the one place where
    `build` is unfolded -/
theorem build_eq {b : BState} (h : BReach b) :
    ∃ rk, rankCalc b.graph = some rk ∧ AugIn b.graph rk.ranks ∧ build b = some (builtOf b rk) := by
  have hg := (breach_good h).1
  obtain ⟨rk, hrk⟩ := rankCalc_total hg
  have hin : AugIn b.graph rk.ranks := ⟨hg, (ranks_longest hg hrk).1, fun _ _ he => ranks_strict hg hrk he⟩
  have hs := augment_sound (decls := b.fns) hin
  refine ⟨rk, hrk, hin, ?_⟩
  unfold build
  simp only [hrk, hs.1, copyStructs_good hs.2.2.2.1]
  rfl

theorem build_shape {b : BState} (h : BReach b) {G : FnGraph} (hb : build b = some G) :
    ∃ rk, rankCalc b.graph = some rk ∧ AugIn b.graph rk.ranks ∧ G = builtOf b rk :=
  have ⟨rk, hrk, hin, he⟩ := build_eq h
  ⟨rk, hrk, hin, Option.some.inj (hb.symm.trans he)⟩

/-- **C11**: `build` never panics: no `expect` fires and the rank loop has fuel to spare -/
theorem build_total {b : BState} (h : BReach b) : ∃ G, build b = some G :=
  have ⟨_, _, _, he⟩ := build_eq h
  ⟨_, he⟩

/-- the build of the example builder `exB_D2` (4 functions, logic `0 → 2`, contains `2 → 3`;
    `0`/`1` conflict on type 1 and get the data edge `0 → 1`; `0`/`3` and `2`/`3` conflict too but
    are already ordered; `1`/`3` only share a read) -/
def exG_D2 : FnGraph :=
  { decls := exB_D2.fns
    graph := ⟨4, [⟨0, 2, .logic⟩, ⟨2, 3, .contains⟩, ⟨0, 1, .data⟩]⟩
    struct := ⟨4, [⟨0, 2, .logic⟩, ⟨2, 3, .contains⟩, ⟨0, 1, .data⟩]⟩
    structRev := ⟨4, [⟨2, 0, .logic⟩, ⟨3, 2, .contains⟩, ⟨1, 0, .data⟩]⟩
    ranks := [0, 0, 1, 2], incoming := [0, 1, 1, 1], outgoing := [2, 0, 1, 0], pops := 4, pathChecks := 6 }

theorem exG_build_D2 : build exB_D2 = some exG_D2 := by decide

-- non-vacuity of `build_total`: a reachable 4-node builder, and the graph it builds
example : ∃ G, build exB_D2 = some G ∧ G.graph.edges = [⟨0, 2, .logic⟩, ⟨2, 3, .contains⟩, ⟨0, 1, .data⟩] :=
  (build_total exB_reach_D2).imp fun G hG => by
    obtain rfl : exG_D2 = G := Option.some.inj (exG_build_D2.symm.trans hG)
    exact ⟨hG, rfl⟩

/-- **C11**: the built graph keeps every function under its `FnId`, every accepted logic/contains
    edge with its kind as a prefix of the edge list, adds only `Data` edges and only between
    conflicting functions, is acyclic with at most one edge per pair, and joins every two
    conflicting functions by a directed path. -/
theorem build_sound {b : BState} (h : BReach b) {G : FnGraph} (hb : build b = some G) :
    G.decls = b.fns ∧ G.graph.n = b.fns.length ∧
    (∃ Dd, G.graph.edges = b.edges ++ Dd ∧
      ∀ e ∈ Dd, e.kind = .data ∧ conflict (declOf b.fns e.src) (declOf b.fns e.tgt) = true) ∧
    (∀ e ∈ b.edges, e.kind ≠ .data) ∧
    GoodG G.graph ∧
    (∀ u v, u < G.graph.n → v < G.graph.n → u ≠ v → conflict (declOf b.fns u) (declOf b.fns v) = true →
      ReachP G.graph u v ∨ ReachP G.graph v u) := by
  obtain ⟨rk, hrk, hin, rfl⟩ := build_shape h hb
  obtain ⟨_, hn, ⟨Dd, hDd, hD⟩, hgood, hconf, _⟩ := augment_sound (decls := b.fns) hin
  dsimp only
  refine ⟨rfl, hn, ⟨Dd, hDd, fun e he => ⟨(hD e he).1, (hD e he).2.1⟩⟩, (breach_good h).2, hgood, ?_⟩
  intro u v hu hv
  exact hconf u v (hn ▸ hu) (hn ▸ hv)

-- non-vacuity of `build_sound`: hypotheses hold for `exB_D2`/`exG_D2`; the data suffix is `[0 → 1]`, and the
-- conflicting pairs (0,1), (0,3), (2,3) are all joined
example : exG_D2.graph.edges = exB_D2.edges ++ [⟨0, 1, .data⟩] ∧ GoodG exG_D2.graph ∧
    conflict (declOf exB_D2.fns 0) (declOf exB_D2.fns 3) = true ∧ conflict (declOf exB_D2.fns 1) (declOf exB_D2.fns 3) = false ∧
    (ReachP exG_D2.graph 0 3 ∨ ReachP exG_D2.graph 3 0) :=
  have hs := build_sound exB_reach_D2 exG_build_D2
  ⟨by decide, hs.2.2.2.2.1, by decide, by decide, hs.2.2.2.2.2 0 3 (by decide) (by decide) (by decide) (by decide)⟩

/-- the scheduling structures describe exactly the built graph; the counts are the degrees; the
    ranks are those of the user graph -/
theorem build_structs {b : BState} (h : BReach b) {G : FnGraph} (hb : build b = some G) :
    G.struct = ⟨G.graph.n, G.graph.edges⟩ ∧ G.structRev = G.graph.flip ∧
    (∀ v, G.incoming[v]?.getD 0 = (parents G.graph v).length) ∧ G.incoming.length = G.graph.n ∧
    (∀ v, G.outgoing[v]?.getD 0 = (children G.graph v).length) ∧ G.outgoing.length = G.graph.n ∧
    (∃ st, rankCalc b.graph = some st ∧ G.ranks = st.ranks ∧ G.pops = st.pops) := by
  obtain ⟨rk, hrk, hin, rfl⟩ := build_shape h hb
  have hgood := (augment_sound (decls := b.fns) hin).2.2.2.1
  obtain ⟨h1, h2, h3, h4⟩ := predCounts_spec hgood.wf
  dsimp only
  exact ⟨rfl, rfl, h1, h2, h3, h4, rk, hrk, rfl, rfl⟩

example : exG_D2.struct = ⟨exG_D2.graph.n, exG_D2.graph.edges⟩ ∧ exG_D2.structRev = exG_D2.graph.flip ∧
    exG_D2.incoming = (List.range 4).map (fun v => (parents exG_D2.graph v).length) ∧
    exG_D2.outgoing = (List.range 4).map (fun v => (children exG_D2.graph v).length) ∧
    (rankCalc exB_D2.graph).map (·.ranks) = some exG_D2.ranks := by decide
example := build_structs exB_reach_D2 exG_build_D2

/-- **C18**: the whole build makes at most `n²` queue pops and `n²` path checks -/
theorem build_work {b : BState} (h : BReach b) {G : FnGraph} (hb : build b = some G) :
    G.pops ≤ G.graph.n * G.graph.n ∧ G.pathChecks ≤ G.graph.n * G.graph.n := by
  obtain ⟨rk, hrk, hin, rfl⟩ := build_shape h hb
  obtain ⟨_, hn, _, _, _, hchk⟩ := augment_sound (decls := b.fns) hin
  have hp := rank_pops_le (breach_good h).1 hrk
  dsimp only
  rw [hn]
  exact ⟨hp, hchk⟩

example : exG_D2.pops = 4 ∧ exG_D2.pathChecks = 6 ∧ exG_D2.graph.n * exG_D2.graph.n = 16 := by decide
example : exG_D2.pops ≤ 16 ∧ exG_D2.pathChecks ≤ 16 := build_work exB_reach_D2 exG_build_D2

/-- **C13** on the built graph -/
theorem build_ranks {b : BState} (h : BReach b) {G : FnGraph} (hb : build b = some G) :
    G.ranks.length = b.fns.length ∧ ∀ v, v < b.fns.length → IsLongestChain b.graph v (G.ranks[v]?.getD 0) := by
  obtain ⟨rk, hrk, hin, rfl⟩ := build_shape h hb
  exact ranks_longest (breach_good h).1 hrk

-- non-vacuity of `build_ranks`: function 3 has rank 2 (chain `0 → 2 → 3`)
example : IsLongestChain exB_D2.graph 3 2 := (build_ranks exB_reach_D2 exG_build_D2).2 3 (by decide)
example : Walk exB_D2.graph 0 3 2 :=
  .snoc (.snoc (.nil 0) ⟨⟨0, 2, .logic⟩, by decide, rfl, rfl⟩) ⟨⟨2, 3, .contains⟩, by decide, rfl, rfl⟩

/-- the forward scheduling structure IS the built graph (`Dag` has eta) -/
theorem build_struct_eq {b : BState} (h : BReach b) {G : FnGraph} (hb : build b = some G) :
    G.struct = G.graph := (build_structs h hb).1

/-- every run theorem applies to forward and reverse runs of every built graph -/
theorem build_goodCfg {b : BState} (h : BReach b) {G : FnGraph} (hb : build b = some G)
    (c : Cfg) (hc : (c.D = G.struct ∧ c.counts0 = G.incoming) ∨ (c.D = G.structRev ∧ c.counts0 = G.outgoing)) :
    GoodCfg c := by
  obtain ⟨hs, hr, hin, hinl, hout, houtl, _⟩ := build_structs h hb
  have hgood := (build_sound h hb).2.2.2.2.1
  have key : ∀ (D : Dag) (cnt : List Nat), GoodG D → cnt.length = D.n →
      (∀ v, cnt[v]?.getD 0 = (parents D v).length) → c.D = D → c.counts0 = cnt → GoodCfg c := by
    intro D cnt hD hl hcnt hcD hcc
    subst hcD; subst hcc
    obtain ⟨p1, p2⟩ := preload_roots hD hcnt
    exact ⟨hD.wf, hD.simple, hD.acyclic, hl, hcnt, p1, p2⟩
  rcases hc with ⟨hD, hcnt⟩ | ⟨hD, hcnt⟩
  · exact key G.graph G.incoming hgood hinl hin (hD.trans hs) hcnt
  · refine key G.graph.flip G.outgoing (flip_good hgood) houtl ?_ (hD.trans hr) hcnt
    intro v
    rw [parents_flip]; exact hout v

-- non-vacuity of `build_goodCfg`: forward and reverse configurations of `exG_D2`
example : GoodCfg (Cfg.forward exG_D2) := build_goodCfg exB_reach_D2 exG_build_D2 _ (Or.inl ⟨rfl, rfl⟩)
example : GoodCfg (Cfg.reverse exG_D2) := build_goodCfg exB_reach_D2 exG_build_D2 _ (Or.inr ⟨rfl, rfl⟩)
example : preload (Cfg.forward exG_D2) = [0] ∧ preload (Cfg.reverse exG_D2) = [3, 1] := by decide

/-- **C14** on the built graph: `iter`, `toposort`, `map`/`fold`/`for_each`/`try_*` visit every function
    once after all its predecessors in the BUILT graph (data edges included); `iter_rev` after all its
    successors; insertion order is `0..n` -/
theorem build_seq {b : BState} (h : BReach b) {G : FnGraph} (hb : build b = some G) :
    topoOrderB G.graph G.iter = true ∧ topoOrderB G.graph G.toposort = true ∧
    topoOrderB G.graph G.visitOrder = true ∧ topoOrderB G.graph.flip G.iterRev = true ∧
    G.iterInsertion = List.range b.fns.length := by
  obtain ⟨_, hr, _⟩ := build_structs h hb
  have hs' := build_struct_eq h hb
  obtain ⟨_, hn, _, _, hgood, _⟩ := build_sound h hb
  have ht := topo_topoOrderB hgood
  have htr := topo_topoOrderB (flip_good hgood)
  refine ⟨?_, ?_, ht, ?_, ?_⟩
  · unfold FnGraph.iter; rw [hs']; exact ht
  · unfold FnGraph.toposort; rw [hs']; exact ht
  · unfold FnGraph.iterRev; rw [hr]; exact htr
  · unfold FnGraph.iterInsertion; rw [hn]

example : exG_D2.iter = [0, 2, 3, 1] ∧ exG_D2.iterRev = [3, 2, 1, 0] ∧
    topoOrderB exG_D2.graph exG_D2.iter = true ∧ topoOrderB exG_D2.graph exG_D2.toposort = true ∧
    topoOrderB exG_D2.graph exG_D2.visitOrder = true ∧ topoOrderB exG_D2.graph.flip exG_D2.iterRev = true ∧
    topoOrderB exG_D2.graph [0, 1, 2, 3] = true ∧ topoOrderB exG_D2.graph [1, 0, 2, 3] = false :=
  have hs := build_seq exB_reach_D2 exG_build_D2
  ⟨by decide, by decide, hs.1, hs.2.1, hs.2.2.1, hs.2.2.2.1, by decide, by decide⟩
example := build_seq exB_reach_D2 exG_build_D2

/-- **C17**: `GraphInfo::from_graph` is total on built graphs and mirrors nodes (insertion order,
    mapped through the caller's function) and edges (with kinds, `Data` included); (de)serialisation
    round-trips; `iter` / `iter_rev` are topological / reverse topological -/
theorem graphInfo_spec {b : BState} (h : BReach b) {G : FnGraph} (hb : build b = some G) (f : Nat → FnDecl → Nat) :
    ∃ gi, GraphInfo.fromGraph G f = some gi ∧
      gi.nodes = (List.range b.fns.length).map (fun i => f i (declOf b.fns i)) ∧
      gi.edges = G.graph.edges ∧
      GraphInfo.deser gi.ser = gi ∧
      topoOrderB G.graph gi.iter = true ∧ topoOrderB G.graph.flip gi.iterRev = true := by
  obtain ⟨hd, hn, _, _, hgood, _⟩ := build_sound h hb
  have hdag : (⟨((List.range G.decls.length).map (fun i => f i (declOf G.decls i))).length, G.graph.edges⟩ : Dag)
      = G.graph := by
    rw [List.length_map, List.length_range, hd, ← hn]
  refine ⟨⟨(List.range G.decls.length).map (fun i => f i (declOf G.decls i)), G.graph.edges⟩, ?_, ?_, rfl, ?_, ?_, ?_⟩
  · unfold GraphInfo.fromGraph
    rw [isCyclic_false hgood.acyclic]; rfl
  · rw [hd]
  · unfold GraphInfo.deser GraphInfo.ser
    simp only [List.map_map]
    congr 1
    conv => rhs; rw [← List.map_id G.graph.edges]
    apply List.map_congr_left
    intro e _; rfl
  · unfold GraphInfo.iter GraphInfo.dag
    rw [hdag]; exact topo_topoOrderB hgood
  · unfold GraphInfo.iterRev GraphInfo.dag
    rw [hdag]; exact topo_topoOrderB (flip_good hgood)

-- non-vacuity of `graphInfo_spec` on `exG_D2` with `f i d = 10 * i + d.tag`
example : ∃ gi, GraphInfo.fromGraph exG_D2 (fun i d => 10 * i + d.tag) = some gi ∧ gi.nodes = [0, 11, 22, 33] ∧
    gi.edges = exG_D2.graph.edges ∧ GraphInfo.deser gi.ser = gi ∧
    topoOrderB exG_D2.graph gi.iter = true ∧ topoOrderB exG_D2.graph.flip gi.iterRev = true :=
  have ⟨gi, h1, h2, h3, h4, h5, h6⟩ := graphInfo_spec exB_reach_D2 exG_build_D2 (fun i d => 10 * i + d.tag)
  ⟨gi, h1, h2.trans (by decide), h3, h4, h5, h6⟩
example := graphInfo_spec exB_reach_D2 exG_build_D2 (fun i d => 10 * i + d.tag)

end FG
