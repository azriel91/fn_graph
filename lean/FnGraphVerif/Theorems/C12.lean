/-
  Theorems/C12.lean — direction of data edges, non-redundancy (determinism and `==`: `C12Eq.lean`).
-/
import FnGraphVerif.Theorems.Build
namespace FG

/-- in the built graph EVERY path goes forward in (rank, insertion order) -/
theorem built_path_forward {b : BState} (h : BReach b) {G : FnGraph} (hb : build b = some G) {u v : Nat}
    (hp : ReachP G.graph u v) :
    G.ranks[u]?.getD 0 < G.ranks[v]?.getD 0 ∨ (G.ranks[u]?.getD 0 = G.ranks[v]?.getD 0 ∧ u < v) := by
  obtain ⟨rk, hrk, hin, rfl⟩ := build_shape h hb
  obtain ⟨_, hn, _, hgood, _⟩ := augment_sound (decls := b.fns) hin
  have hu' : u < b.graph.n := hn ▸ hp.src_lt hgood.wf
  have hv' : v < b.graph.n := hn ▸ hp.tgt_lt hgood.wf
  exact ((rankOrder_spec b.graph.n rk.ranks).2 u v hu' hv').mp (Fwd.reachP (fun _ _ he => augment_forward hin he) hp)

set_option linter.unusedVariables false in
/-- **C12** (direction): two conflicting functions not ordered by logic/contains edges are ordered in
    the built graph with the lower logic rank first and, at equal rank, the earlier inserted first.
    (`hnu`/`hnv` are not needed: the pair is joined one way (`build_sound`), and every path goes
    forward (`built_path_forward`).) -/
theorem conflict_direction {b : BState} (h : BReach b) {G : FnGraph} (hb : build b = some G) {u v : Nat}
    (hu : u < b.fns.length) (hv : v < b.fns.length) (hne : u ≠ v)
    (hcf : conflict (declOf b.fns u) (declOf b.fns v) = true)
    (hnu : ¬ ReachP b.graph u v) (hnv : ¬ ReachP b.graph v u) :
    ReachP G.graph u v ↔
      (G.ranks[u]?.getD 0 < G.ranks[v]?.getD 0 ∨ (G.ranks[u]?.getD 0 = G.ranks[v]?.getD 0 ∧ u < v)) := by
  refine ⟨built_path_forward h hb, fun hlt => ?_⟩
  obtain ⟨_, hn, _, _, _, hjoin⟩ := build_sound h hb
  rcases hjoin u v (hn ▸ hu) (hn ▸ hv) hne hcf with hp | hp
  · exact hp
  · have := built_path_forward h hb hp
    omega

/-- **C12** (non-redundancy): no `Data` edge repeats an ordering already implied by the other edges -/
theorem data_edge_not_redundant {b : BState} (h : BReach b) {G : FnGraph} (hb : build b = some G)
    {i : Nat} {e : Edge} (hi : G.graph.edges[i]? = some e) (hk : e.kind = .data) :
    ¬ Reach ⟨G.graph.n, G.graph.edges.eraseIdx i⟩ e.src e.tgt := by
  obtain ⟨rk, hrk, hin, rfl⟩ := build_shape h hb
  obtain ⟨_, hn, ⟨Dd, hed, _⟩, _⟩ := augment_sound (decls := b.fns) hin
  have hge : b.graph.edges.length ≤ i := by
    refine Nat.le_of_not_lt fun hlt => ?_
    rw [hed, List.getElem?_append_left hlt] at hi
    exact (breach_good h).2 e (List.mem_of_getElem? hi) hk
  rw [show (augment b.graph b.fns rk.ranks).g.n = b.graph.n from hn]
  exact augment_not_redundant hin hi hge

/-! ### non-vacuity

  Three functions: `0` writes resource 7, `2` reads it, `1` touches nothing; one user edge
  `0 →logic 1`.  Ranks are `[0,1,0]`; the conflicting pair `0,2` is not ordered by the user, has
  equal rank, so the earlier inserted `0` goes first: `build` adds `0 →data 2`. -/

def exB_D : BState :=
  (applyOps BState.empty [.addFn ⟨[], [7], 0⟩, .addFn ⟨[], [], 1⟩, .addFn ⟨[7], [], 2⟩, .edge .logic 0 1]).1

theorem exB_reach_D : BReach exB_D := breach_applyOps _ (by decide) .empty

def exBuilt_D : FnGraph :=
  { decls := [⟨[], [7], 0⟩, ⟨[], [], 1⟩, ⟨[7], [], 2⟩],
    graph := ⟨3, [⟨0, 1, .logic⟩, ⟨0, 2, .data⟩]⟩,
    struct := ⟨3, [⟨0, 1, .logic⟩, ⟨0, 2, .data⟩]⟩,
    structRev := ⟨3, [⟨1, 0, .logic⟩, ⟨2, 0, .data⟩]⟩,
    ranks := [0, 1, 0], incoming := [0, 1, 1], outgoing := [2, 0, 0], pops := 3, pathChecks := 3 }

theorem exB_build_D : build exB_D = some exBuilt_D := by decide

theorem exB_unordered_D : ¬ ReachP exB_D.graph 0 2 ∧ ¬ ReachP exB_D.graph 2 0 := by
  have hwf : WF exB_D.graph := (breach_good exB_reach_D).1.wf
  exact ⟨fun hp => absurd (hasPath_of_reachP hwf hp) (by decide),
    fun hp => absurd (hasPath_of_reachP hwf hp) (by decide)⟩

/-- `conflict_direction` exercised: equal ranks, `0 < 2`, hence a path `0 ⟶ 2` -/
example : ReachP exBuilt_D.graph 0 2 :=
  (conflict_direction exB_reach_D exB_build_D (u := 0) (v := 2) (by decide) (by decide) (by decide)
    (by decide) exB_unordered_D.1 exB_unordered_D.2).mpr (by decide)

/-- `data_edge_not_redundant` exercised on the data edge at index 1 -/
example : ¬ Reach ⟨3, [⟨0, 1, .logic⟩]⟩ 0 2 :=
  data_edge_not_redundant exB_reach_D exB_build_D (i := 1) (e := ⟨0, 2, .data⟩) (by decide) rfl

end FG
