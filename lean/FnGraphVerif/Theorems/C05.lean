/-
  `stream()` / `stream_with()` / `stream*_interruptible()` at poll level, with
  wakers: no lost wake-up, ends exactly at the end, never panics; plus the stream forms of
  C01 / C02 / C03.  All statements are about the closure AFTER the `fix:` commit (`drain = true`)
  and hold for every interleaving of polls, `FnRef` drops (any number between polls), interrupt
  signals and an early drop of the stream.
-/
import FnGraphVerif.Proofs.StreamInv
namespace FG

variable {c : Cfg} {s : SState}

/-- **C05**: dropping `FnRef`s or the stream in any order, polling at any time: no panic -/
theorem stream_no_panic (hc : GoodCfg c) (hr : SReachable c true s) : s.panic = false :=
  (sinv_reachable hc hr).core.noPanic

/-- non-vacuity: a run on the diamond with drops before, between and after polls and an early stream drop -/
example : SReachable exDiamond_I true
      (exRun_I exDiamond_I true [.poll, .drop 0, .poll, .poll, .drop 2, .interrupt, .poll, .drop 1, .dropStream]) ∧
    (exRun_I exDiamond_I true [.poll, .drop 0, .poll, .poll, .drop 2, .interrupt, .poll, .drop 1, .dropStream]).panic
      = false :=
  ⟨exRun_reachable_I (by decide), stream_no_panic exDiamond_good_I (exRun_reachable_I (by decide))⟩

/-- **C05** (no lost wake-up): whenever the consumer is parked (its last poll returned `Pending`)
    and some function has all its predecessors dropped, a wake-up has been signalled. -/
theorem no_lost_wakeup (hc : GoodCfg c) (hr : SReachable c true s) (hd : s.streamDropped = false)
    (hp : s.lastPending = true) (hn : needsPoll c s) : s.wake = true :=
  (sinv_reachable hc hr).core.no_lost_wakeup (sinv_reachable hc hr).park hd hp hn

/-- non-vacuity: on the join `0 → 2 ← 1`: yield 0, yield 1, park, drop both refs.  The consumer is
    parked, node 2 needs a poll — and the wake flag is indeed set. -/
example :
    let s := exRun_I exJoin_I true [.poll, .poll, .poll, .drop 0, .drop 1]
    SReachable exJoin_I true s ∧ s.streamDropped = false ∧ s.lastPending = true ∧ needsPoll exJoin_I s ∧
      s.wake = true :=
  ⟨exRun_reachable_I (by decide), by decide, by decide, ⟨2, by decide, by decide, by decide⟩, by decide⟩

/-- **C05**: a poll that returns `Pending` without a wake-up leaves every unyielded function blocked
    by an undropped `FnRef` of a direct predecessor -/
theorem pending_not_stalled (hc : GoodCfg c) (hr : SReachable c true s) (hd : s.streamDropped = false)
    (hp : (sipoll c true s).2.1 = .pending) :
    (sipoll c true s).1.wake = true ∨
    ∀ v, v < c.n → v ∉ (sipoll c true s).1.yielded → ∃ p ∈ parents c.D v, p ∉ (sipoll c true s).1.droppedRefs := by
  have hi : SInv c (sipoll c true s).1 :=
    sinv_reachable hc (SReachable.step .poll hr (sstep_poll_iff.mpr ⟨hd, rfl⟩))
  obtain ⟨_, a2, a3, _⟩ := score_sipoll hc (sinv_reachable hc hr).core
  exact hi.core.parked_not_stalled hi.park (a2.trans hd) (a3.mpr hp)

/-- non-vacuity: on the diamond after yielding 0 the second poll answers `Pending` (0's ref is live) -/
example : SReachable exDiamond_I true (exRun_I exDiamond_I true [.poll]) ∧
    (exRun_I exDiamond_I true [.poll]).streamDropped = false ∧
    (sipoll exDiamond_I true (exRun_I exDiamond_I true [.poll])).2.1 = .pending :=
  ⟨exRun_reachable_I (by decide), by decide, by decide⟩

/-- **C05** (progress): if some function has all predecessors dropped, the next poll of the plain
    stream does not answer `Pending` — something is yielded without any unrelated event -/
theorem poll_progress (hc : GoodCfg c) (hr : SReachable c true s) (hd : s.streamDropped = false)
    (hn : needsPoll c s) : ∃ f, (spoll c true s).2 = .some f := by
  have hi := (sinv_reachable hc hr).core
  obtain ⟨v, hv, hvy, hpar⟩ := hn
  obtain ⟨d, hdc, hso, _, hrel, _, heq⟩ := spoll_eq_drained hc hi
  rw [heq]
  have htx : s.txOpen = true := by
    apply hi.tx.mpr
    intro h0
    have hlen : c.n ≤ s.yielded.length := by have := hi.rem; omega
    exact hvy (mem_of_nodup_full (List.nodup_append.mp hi.queueNodup).2.1
      (fun x hx => hi.bound x (Or.inr hx)) hlen hv)
  have hdtx : d.txOpen = true := hso.txOpen.trans htx
  apply (sReadyHalf_facts d).2.2.2 hdtx
  have hrel' : ∀ p ∈ parents c.D v, p ∈ d.released := by
    intro p hpm
    rw [hrel]
    rcases hi.droppedDone hd p (hpar p hpm) with h1 | h1
    · exact List.mem_append_left _ h1
    · exact List.mem_append_right _ h1
  rcases hdc.complete hdtx v hv hrel' with h1 | h1
  · exact List.ne_nil_of_mem h1
  · rw [hso.yielded] at h1; exact absurd h1 hvy

/-- non-vacuity: on the diamond after `poll, drop 0` nodes 1 and 2 need a poll; the poll yields 2
    (adjacency order: most recently added edge first) -/
example :
    let s := exRun_I exDiamond_I true [.poll, .drop 0]
    SReachable exDiamond_I true s ∧ s.streamDropped = false ∧ needsPoll exDiamond_I s ∧
      (spoll exDiamond_I true s).2 = .some 2 :=
  ⟨exRun_reachable_I (by decide), by decide, ⟨1, by decide, by decide, by decide⟩, by decide⟩

/-- **C05**: the plain stream yields `None` exactly after all functions were yielded -/
theorem none_iff_all_yielded (hc : GoodCfg c) (hr : SReachable c true s) (hst : c.strat = .non) :
    (spoll c true s).2 = .none ↔ s.yielded.Perm (List.range c.n) := by
  have hi := (sinv_reachable hc hr).core
  rw [spoll_none_iff hc hi]
  refine ⟨fun hlen => ?_, fun hperm => by rw [hperm.length_eq, List.length_range]⟩
  exact perm_range_of_nodup_full (List.nodup_append.mp hi.queueNodup).2.1
    (fun x hx => hi.bound x (Or.inr hx)) (Nat.le_of_eq hlen.symm)

/-- non-vacuity: on the join, after everything was yielded the poll answers `None`; before, it does not -/
example :
    let s := exRun_I exJoin_I true [.poll, .poll, .drop 1, .drop 0, .poll]
    SReachable exJoin_I true s ∧ exJoin_I.strat = .non ∧ (spoll exJoin_I true s).2 = .none ∧
      (spoll exJoin_I true (exRun_I exJoin_I true [.poll, .poll, .drop 1])).2 ≠ .none :=
  ⟨exRun_reachable_I (by decide), rfl, by decide, by decide⟩

/-- **C03** (stream form): nothing is queued or yielded twice -/
theorem stream_yield_nodup (hc : GoodCfg c) (hr : SReachable c true s) : (s.readyQ ++ s.yielded).Nodup :=
  (sinv_reachable hc hr).core.queueNodup

example : SReachable exDiamond_I true (exRun_I exDiamond_I true [.poll, .drop 0, .poll]) ∧
    (exRun_I exDiamond_I true [.poll, .drop 0, .poll]).readyQ ++ (exRun_I exDiamond_I true [.poll, .drop 0, .poll]).yielded
      = [1, 0, 2] :=
  ⟨exRun_reachable_I (by decide), by decide⟩

/-- **C02** (stream form): a function is yielded only after the `FnRef`s of all its ancestors were dropped -/
theorem stream_yield_after_ancestors (hc : GoodCfg c) (hr : SReachable c true s) {u v : Nat}
    (hv : v ∈ s.readyQ ∨ v ∈ s.yielded) (huv : ReachP c.D u v) : u ∈ s.droppedRefs ∧ u ∉ s.live :=
  (sinv_reachable hc hr).core.yield_after_ancestors hv huv

/-- non-vacuity: on the diamond node 3 gets queued only after 0, 1, 2 were dropped; `0` is a proper ancestor -/
example :
    let s := exRun_I exDiamond_I true [.poll, .drop 0, .poll, .poll, .drop 2, .drop 1, .poll]
    SReachable exDiamond_I true s ∧ 3 ∈ s.yielded ∧ ReachP exDiamond_I.D 0 3 ∧ 0 ∈ s.droppedRefs :=
  ⟨exRun_reachable_I (by decide), by decide,
   ReachP.tail (ReachP.edge ⟨⟨0, 1, .logic⟩, by decide, rfl, rfl⟩) ⟨⟨1, 3, .logic⟩, by decide, rfl, rfl⟩,
   by decide⟩

/-- **C01** (stream form): two functions ordered by the scheduling graph never have live `FnRef`s together -/
theorem stream_no_ancestor_live (hc : GoodCfg c) (hr : SReachable c true s) {u v : Nat}
    (hu : u ∈ s.live) (hv : v ∈ s.live) : ¬ ReachP c.D u v :=
  (sinv_reachable hc hr).core.no_ancestor_live hu hv

/-- non-vacuity: two live refs at once (the unordered nodes 1 and 2 of the diamond) -/
example :
    let s := exRun_I exDiamond_I true [.poll, .drop 0, .poll, .poll]
    SReachable exDiamond_I true s ∧ 1 ∈ s.live ∧ 2 ∈ s.live :=
  ⟨exRun_reachable_I (by decide), by decide, by decide⟩

/-- **C03** (stream form): the done channel never fills, so no `try_send` of a drop is lost -/
theorem stream_channels_never_full (hc : GoodCfg c) (hr : SReachable c true s) :
    s.doneQ.length ≤ c.cap ∧ s.readyQ.length ≤ c.cap ∧
    (∀ f ∈ s.droppedRefs, s.streamDropped = false → f ∈ s.released ∨ f ∈ s.doneQ) := by
  have hi := (sinv_reachable hc hr).core
  have := c.n_le_cap
  refine ⟨Nat.le_trans hi.doneLen this, Nat.le_trans hi.readyLen this, ?_⟩
  intro f hf hsd
  exact hi.droppedDone hsd f hf

/-- non-vacuity: both channels non-empty at once -/
example :
    let s := exRun_I exDiamond_I true [.poll, .drop 0, .poll, .poll, .drop 2, .drop 1]
    SReachable exDiamond_I true s ∧ s.doneQ = [2, 1] ∧ s.streamDropped = false ∧ s.droppedRefs = [0, 2, 1] :=
  ⟨exRun_reachable_I (by decide), by decide, by decide, by decide⟩

end FG
