/-
  Theorems/Confluence.lean — CONFLUENCE OF THE INTERNAL ACTIONS of the run protocol.

  The correspondence driver compares the implementation at every quiescent point with
  `settle c s`, i.e. with ONE order of the internal actions (invoke, queuerRecv, queuerEnd,
  schedPoll, schedEnd, ret).  A real executor may interleave queuer and scheduler differently.
  `internal_confluence`: whatever order is taken, the quiescent state reached agrees with
  `settle c s` on the observation `obs`.

  FINDINGS (exhaustive search over all graphs with ≤ 3 nodes, all limits / sequential / errMode /
  strategies `non, ignore, finish, pollN 0..3` / incl, all reachable states):
  `q = settle c s` is FALSE in general; exactly two fields can differ, kernel-checked below ((a), (b), (c)):
  * `invoked` — (a) its ORDER (two handed-out functions may be invoked in either order), and
    (c) under a non-sequential `shortCircuit` configuration (no real API, `Cfg.ApiOk` fails) even as a
    SET: after `ret` a handed-out function may or may not still be invoked; `settle` always does it.
    Invariant: the set `invoked ∪ inflight`.
  * `readyQ` — (b) once the ready receiver is dropped (`readyRxOpen = false`; the stream ended after an
    interrupt): a `queuerRecv` before the last `schedPoll` still queues the released children, one after it
    does not.  Invariant: `readyQ` while `readyRxOpen`, nothing afterwards (nobody reads it then).
  Every other field, ALL of the interrupt machine `im` included, is independent of the order
  (`internal_confluence_fields`).

  Proof: `invoke` is split off (no other internal action reads or writes `invoked`); the other five
  "core" actions terminate (`mu`) and are locally confluent modulo `Sim` — the two real diamonds are
  queuer against `schedPoll`, where a `Pending` poll is absorbed by the next poll — so Newman's lemma
  gives unique normal forms (`Proofs/CoreNewman.lean`, `Proofs/CoreDiamond.lean`).
-/
import FnGraphVerif.Proofs.CoreDiamond
import FnGraphVerif.Theorems.C04
namespace FG
variable {c : Cfg} {s s' : PState}

/-- one more than the largest member -/
def idBound : List Nat → Nat
  | [] => 0
  | a :: l => max (a + 1) (idBound l)

/-- canonical (sorted, duplicate-free) list of the members of `l` -/
def canon (l : List Nat) : List Nat := (List.range (idBound l)).filter (fun f => decide (f ∈ l))

theorem lt_idBound {l : List Nat} {f : Nat} (h : f ∈ l) : f < idBound l := by
  induction l with
  | nil => cases h
  | cons a l ih =>
    simp only [idBound]
    rcases List.mem_cons.mp h with rfl | h
    · omega
    · have := ih h; omega

theorem idBound_le {l : List Nat} {n : Nat} (h : ∀ f ∈ l, f < n) : idBound l ≤ n := by
  induction l with
  | nil => simp [idBound]
  | cons a l ih =>
    simp only [idBound]
    have h1 := h a (by simp)
    have h2 := ih (fun f hf => h f (List.mem_cons_of_mem _ hf))
    omega

theorem mem_canon {l : List Nat} {f : Nat} : f ∈ canon l ↔ f ∈ l := by
  simp only [canon, List.mem_filter, List.mem_range, decide_eq_true_eq]
  exact ⟨fun h => h.2, fun h => ⟨lt_idBound h, h⟩⟩

theorem canon_congr {l1 l2 : List Nat} (h : ∀ f, f ∈ l1 ↔ f ∈ l2) : canon l1 = canon l2 := by
  have hb : idBound l1 = idBound l2 :=
    Nat.le_antisymm (idBound_le (fun f hf => lt_idBound ((h f).mp hf)))
      (idBound_le (fun f hf => lt_idBound ((h f).mpr hf)))
  unfold canon
  rw [hb]
  apply List.filter_congr
  intro x _
  simp only [decide_eq_decide]
  exact h x

/-- The observation: the whole state, except that `invoked` is replaced by the sorted set of the
    functions invoked or still in flight, and the ready queue is blanked once its receiver is gone.
    (At a quiescent point where the call has not returned every in-flight function is invoked, so the
    first component is then just the sorted set of `invoked`.) -/
def obs (s : PState) : PState :=
  { s with invoked := canon (s.invoked ++ s.inflight),
           readyQ := if s.readyRxOpen then s.readyQ else [] }

theorem obs_eq_norm (s : PState) : obs s = { norm s with invoked := canon (s.invoked ++ s.inflight) } := rfl

theorem internal_step_invoked {a : Action} (ha : a.internal) (h : step? c s a = some s') :
    (∀ f ∈ s.invoked, f ∈ s'.invoked) ∧ (∀ f ∈ s'.invoked, f ∈ s.invoked ∨ f ∈ s'.inflight) ∧
    (∀ f ∈ s.inflight, f ∈ s'.inflight) := by
  rcases (internal_step_lists ha h).2.2 with ⟨e1, _, e2⟩ | ⟨g, hg, _, e1, _, e2⟩ | ⟨g, rest, _, e1, _, e2⟩
  · rw [e1, e2]; exact ⟨fun _ h => h, fun _ h => .inl h, fun _ h => h⟩
  · rw [e1, e2]
    refine ⟨fun _ h => List.mem_append_left _ h, fun f hf => ?_, fun _ h => h⟩
    rcases List.mem_append.mp hf with hf | hf
    · exact .inl hf
    · rw [List.mem_singleton.mp hf]; exact .inr hg
  · rw [e1, e2]; exact ⟨fun _ h => h, fun _ h => .inl h, fun _ h => List.mem_append_left _ h⟩

theorem internal_run_invoked {as : List Action} {s q : PState} (hint : ∀ a ∈ as, a.internal)
    (h : run c s as = some q) :
    (∀ f ∈ s.invoked, f ∈ q.invoked) ∧ (∀ f ∈ q.invoked, f ∈ s.invoked ∨ f ∈ q.inflight) ∧
    (∀ f ∈ s.inflight, f ∈ q.inflight) :=
  run_rel (R := fun s q => (∀ f ∈ s.invoked, f ∈ q.invoked) ∧ (∀ f ∈ q.invoked, f ∈ s.invoked ∨ f ∈ q.inflight) ∧
      (∀ f ∈ s.inflight, f ∈ q.inflight)) (ok := Action.internal)
    (fun _ => ⟨fun _ h => h, fun _ h => .inl h, fun _ h => h⟩)
    (fun ⟨a1, a2, a3⟩ ⟨b1, b2, b3⟩ => ⟨fun f hf => b1 f (a1 f hf),
      fun f hf => (b2 f hf).elim (fun h => (a2 f h).imp id (b3 f)) .inr, fun f hf => b3 f (a3 f hf)⟩)
    (fun ha hs => internal_step_invoked ha hs) hint h

/-- `quiescent_sim_settle`, with `internal` spelled out -/
theorem internal_confluence_sim (hc : GoodCfg c) (hr : Reachable c s) {as : List Action} {q : PState}
    (hint : ∀ a ∈ as, a ≠ .interrupt ∧ ∀ f ok, a ≠ .finish f ok) (hrun : run c s as = some q)
    (hq : Quiescent c q) : Sim q (settle c s) :=
  quiescent_sim_settle hc hr hint hrun hq

/-- the quiescent state and `settle c s` have invoked, or still have in flight, the same functions -/
theorem confluence_invoked_set (hc : GoodCfg c) (hr : Reachable c s) {as : List Action} {q : PState}
    (hint : ∀ a ∈ as, a.internal) (hrun : run c s as = some q) (hq : Quiescent c q) (f : Nat) :
    f ∈ q.invoked ∨ f ∈ q.inflight ↔ f ∈ (settle c s).invoked ∨ f ∈ (settle c s).inflight := by
  obtain ⟨bs, hbs, hrun2⟩ := settleN_run (c := c) (settleFuel c) s
  obtain ⟨a1, a2, _⟩ := internal_run_invoked hint hrun
  obtain ⟨b1, b2, _⟩ := internal_run_invoked hbs hrun2
  have hn : norm q = norm (settle c s) := internal_confluence_sim hc hr hint hrun hq
  have hinf : q.inflight = (settle c s).inflight := by have := congrArg PState.inflight hn; exact this
  rw [← hinf]
  constructor
  · rintro (h | h)
    · exact (a2 f h).imp (b1 f) id
    · exact Or.inr h
  · rintro (h | h)
    · exact (b2 f h).imp (a1 f) (hinf ▸ id)
    · exact Or.inr h

/-- **Confluence of the internal actions.**  From a reachable state, every sequence of internal
    actions that ends in a quiescent state ends in the state `settle c s`, up to `obs`. -/
theorem internal_confluence (hc : GoodCfg c) (hr : Reachable c s) {as : List Action} {q : PState}
    (hint : ∀ a ∈ as, a ≠ .interrupt ∧ ∀ f ok, a ≠ .finish f ok) (hrun : run c s as = some q)
    (hq : Quiescent c q) : obs q = obs (settle c s) := by
  have hcanon : canon (q.invoked ++ q.inflight) = canon ((settle c s).invoked ++ (settle c s).inflight) :=
    canon_congr fun f => by
      simp only [List.mem_append]; exact confluence_invoked_set hc hr hint hrun hq f
  rw [obs_eq_norm, obs_eq_norm, hcanon, show norm q = norm (settle c s) from internal_confluence_sim hc hr hint hrun hq]

/-- spelled out: every field other than `invoked` and `readyQ` — in particular the whole interrupt
    machine `im`, the hand-out order, the counts and the result — is the same; so is `readyQ` while
    the ready receiver lives, and the set of functions invoked-or-in-flight -/
theorem internal_confluence_fields (hc : GoodCfg c) (hr : Reachable c s) {as : List Action} {q : PState}
    (hint : ∀ a ∈ as, a ≠ .interrupt ∧ ∀ f ok, a ≠ .finish f ok) (hrun : run c s as = some q)
    (hq : Quiescent c q) :
    q.counts = (settle c s).counts ∧ q.readyTxOpen = (settle c s).readyTxOpen ∧
    q.readyRxOpen = (settle c s).readyRxOpen ∧ q.doneQ = (settle c s).doneQ ∧
    q.doneTxOpen = (settle c s).doneTxOpen ∧ q.released = (settle c s).released ∧
    q.qRemaining = (settle c s).qRemaining ∧ q.qDone = (settle c s).qDone ∧
    q.sRemaining = (settle c s).sRemaining ∧ q.handedOut = (settle c s).handedOut ∧
    q.inflight = (settle c s).inflight ∧ q.endedOk = (settle c s).endedOk ∧ q.failed = (settle c s).failed ∧
    q.errors = (settle c s).errors ∧ q.dropped = (settle c s).dropped ∧
    q.closeAfter = (settle c s).closeAfter ∧ q.im = (settle c s).im ∧
    q.streamEnded = (settle c s).streamEnded ∧ q.sDone = (settle c s).sDone ∧
    q.shortErr = (settle c s).shortErr ∧ q.result = (settle c s).result ∧ q.panic = (settle c s).panic ∧
    (q.readyRxOpen = true → q.readyQ = (settle c s).readyQ) ∧
    (∀ f, f ∈ q.invoked ∨ f ∈ q.inflight ↔ f ∈ (settle c s).invoked ∨ f ∈ (settle c s).inflight) ∧
    (q.result = none → q.invoked.Perm (settle c s).invoked) := by
  have hsim := internal_confluence_sim hc hr hint hrun hq
  simp only [Sim, norm, PState.mk.injEq, true_and] at hsim
  obtain ⟨f1, f2, f3, f4, f5, f6, f7, f8, f9, f10, f11, f13, f14, f15, f16, f17, f18, f19, f20, f21, f22,
    f23, f24⟩ := hsim
  have hset := confluence_invoked_set hc hr hint hrun hq
  refine ⟨f1, f3, f4, f5, f6, f7, f8, f9, f10, f11, f13, f14, f15, f16, f17, f18, f19, f20, f21, f22, f23, f24,
    ?_, hset, ?_⟩
  · intro hrx
    simpa only [← f4, hrx, if_true] using f2
  · intro hres
    have hrq : Reachable c q := Reachable.of_run hr hrun
    have hrt : Reachable c (settle c s) := settle_reachable hr
    have hres' : (settle c s).result = none := f23 ▸ hres
    have hiq := quiescent_invoke_quiet hq hres
    have hit := quiescent_invoke_quiet (settle_quiescent hc hr) hres'
    apply (List.perm_ext_iff_of_nodup (inv0_reachable hc hrq).invNodup (inv0_reachable hc hrt).invNodup).mpr
    intro f
    constructor
    · intro hf
      rcases (hset f).mp (Or.inl hf) with h' | h'
      · exact h'
      · exact hit f h'
    · intro hf
      rcases (hset f).mpr (Or.inl hf) with h' | h'
      · exact h'
      · exact hiq f h'

def isInternalB : Action → Bool
  | .interrupt => false
  | .finish _ _ => false
  | _ => true

theorem internal_of_all {as : List Action} (h : as.all isInternalB = true) :
    ∀ a ∈ as, a ≠ .interrupt ∧ ∀ f ok, a ≠ .finish f ok := by
  intro a ha
  have := List.all_eq_true.mp h a ha
  cases a <;> simp [isInternalB] at this ⊢

/-- diamond `0→1, 0→2, 1→3, 2→3`, at most two functions at a time -/
def cfA_L : Cfg := { D := exDag_F, counts0 := [0, 1, 1, 2], limit := some 2 }
/-- `0` handed out, invoked and successfully returned; nothing else has happened -/
def sA_L : PState := (run cfA_L (init cfA_L) [.schedPoll, .invoke 0, .finish 0 true]).getD default
/-- the scheduler polls (`Pending`) BEFORE the queuer folds the done id, then polls again; `1` is
    invoked before `2` although `2` was handed out first -/
def asA_L : List Action := [.schedPoll, .queuerRecv, .schedPoll, .schedPoll, .invoke 1, .invoke 2]
def qA_L : PState := (run cfA_L sA_L asA_L).getD default

theorem cfA_good_L : GoodCfg cfA_L := exCfg_good_F _ rfl rfl
theorem sA_reach_L : Reachable cfA_L sA_L :=
  Reachable.of_run .init (as := [.schedPoll, .invoke 0, .finish 0 true]) (eq_some_getD_of_isSome _ (by decide))
theorem asA_run_L : run cfA_L sA_L asA_L = some qA_L := eq_some_getD_of_isSome _ (by decide)
theorem qA_quiescent_L : Quiescent cfA_L qA_L := by decide

/-- (a) the ORDER of `invoked` depends on the order of the internal actions -/
theorem confluence_not_id_invoked_order :
    qA_L.invoked = [0, 1, 2] ∧ (settle cfA_L sA_L).invoked = [0, 2, 1] ∧ qA_L ≠ settle cfA_L sA_L := by
  have h1 : qA_L.invoked = [0, 1, 2] := by decide
  have h2 : (settle cfA_L sA_L).invoked = [0, 2, 1] := by decide
  refine ⟨h1, h2, fun he => ?_⟩
  rw [he, h2] at h1
  exact absurd h1 (by decide)

/-- hence the statement with `obs = id` is false -/
theorem internal_confluence_id_false :
    ¬ (∀ (c : Cfg) (s : PState) (as : List Action) (q : PState), GoodCfg c → Reachable c s →
        (∀ a ∈ as, a ≠ .interrupt ∧ ∀ f ok, a ≠ .finish f ok) → run c s as = some q → Quiescent c q →
        q = settle c s) := by
  intro H
  exact confluence_not_id_invoked_order.2.2
    (H cfA_L sA_L asA_L qA_L cfA_good_L sA_reach_L (internal_of_all (by decide)) asA_run_L qA_quiescent_L)

/- non-vacuity of `internal_confluence`: the run above is not the order `settle` takes, passes through a
   state-changing `Pending` poll, ends in a different state, and the theorem identifies the two
   observations; concretely the interrupt machines, hand-out orders and invoked SETS agree -/
example : obs qA_L = obs (settle cfA_L sA_L) :=
  internal_confluence cfA_good_L sA_reach_L (internal_of_all (by decide)) asA_run_L qA_quiescent_L
set_option maxRecDepth 100000 in
example : qA_L.handedOut = [0, 2, 1] ∧ (obs qA_L).invoked = [0, 1, 2] ∧ qA_L.inflight = [2, 1] ∧
    (step? cfA_L sA_L .schedPoll).map (fun t => t.im.hp) = some true ∧ sA_L.im.hp = false ∧
    qA_L.im = (settle cfA_L sA_L).im := by decide

/-- interruptible diamond, strategy `FinishCurrent` -/
def cfB_L : Cfg := { D := exDag_F, counts0 := [0, 1, 1, 2], strat := .finish }
/-- `0` has returned (its done id is in the channel) and an interrupt signal has been sent -/
def sB_L : PState := (run cfB_L (init cfB_L) [.schedPoll, .invoke 0, .finish 0 true, .interrupt]).getD default
/-- the scheduler sees the interrupt and ends the stream BEFORE the queuer folds the done id -/
def asB_L : List Action := [.schedPoll, .schedPoll, .queuerRecv, .queuerEnd, .schedEnd, .ret]
def qB_L : PState := (run cfB_L sB_L asB_L).getD default

/-- (b) the ready queue after its receiver is dropped depends on the order: `settle` (queuer first) leaves
    the released children `2, 1` in it, the other order leaves it empty.  Everything else agrees. -/
theorem confluence_not_id_readyQ :
    GoodCfg cfB_L ∧ Reachable cfB_L sB_L ∧ (∀ a ∈ asB_L, a ≠ .interrupt ∧ ∀ f ok, a ≠ .finish f ok) ∧
    run cfB_L sB_L asB_L = some qB_L ∧ Quiescent cfB_L qB_L ∧
    qB_L.readyQ = [] ∧ (settle cfB_L sB_L).readyQ = [2, 1] ∧ qB_L.readyRxOpen = false ∧
    obs qB_L = obs (settle cfB_L sB_L) := by
  have hg : GoodCfg cfB_L := exCfg_good_F _ rfl rfl
  have hr : Reachable cfB_L sB_L :=
    Reachable.of_run .init (as := [.schedPoll, .invoke 0, .finish 0 true, .interrupt])
      (eq_some_getD_of_isSome _ (by decide))
  have hint := internal_of_all (as := asB_L) (by decide)
  have hrun : run cfB_L sB_L asB_L = some qB_L := eq_some_getD_of_isSome _ (by decide)
  have hq : Quiescent cfB_L qB_L := by decide
  exact ⟨hg, hr, hint, hrun, hq, by decide, by decide, by decide, internal_confluence hg hr hint hrun hq⟩

/-- `0` and `1` handed out, `1` invoked and failed: the short-circuiting scheduler is done while `0`
    is in flight and not yet invoked (`cxCfg_F` is not `ApiOk`: no real API is like this) -/
def sC_L : PState := (run cxCfg_F (init cxCfg_F) [.schedPoll, .schedPoll, .invoke 1, .finish 1 false]).getD default
def asC_L : List Action := [.queuerEnd, .ret]
def qC_L : PState := (run cxCfg_F sC_L asC_L).getD default

/-- (c) non-sequential `shortCircuit` only: once the call has returned, a quiescent state need not have
    invoked what is in flight, `settle` always has — even the SET `invoked` differs; `invoked ∪ inflight`
    does not. -/
theorem confluence_not_id_invoked_set :
    GoodCfg cxCfg_F ∧ Reachable cxCfg_F sC_L ∧ (∀ a ∈ asC_L, a ≠ .interrupt ∧ ∀ f ok, a ≠ .finish f ok) ∧
    run cxCfg_F sC_L asC_L = some qC_L ∧ Quiescent cxCfg_F qC_L ∧
    qC_L.invoked = [1] ∧ (settle cxCfg_F sC_L).invoked = [1, 0] ∧ qC_L.inflight = [0] ∧
    qC_L.result = some (.err 1) ∧ obs qC_L = obs (settle cxCfg_F sC_L) := by
  have hr : Reachable cxCfg_F sC_L :=
    Reachable.of_run .init (as := [.schedPoll, .schedPoll, .invoke 1, .finish 1 false])
      (eq_some_getD_of_isSome _ (by decide))
  have hint := internal_of_all (as := asC_L) (by decide)
  have hrun : run cxCfg_F sC_L asC_L = some qC_L := eq_some_getD_of_isSome _ (by decide)
  have hq : Quiescent cxCfg_F qC_L := by decide
  exact ⟨cxCfg_good_F, hr, hint, hrun, hq, by decide, by decide, by decide, by decide,
    internal_confluence cxCfg_good_F hr hint hrun hq⟩

end FG
