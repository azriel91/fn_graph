/-
  C05 / C08 for the interruptible streams (`stream_interruptible`, `stream_with_interruptible`) at
  micro-step granularity: the machine `mistep?` of `Proofs/MicroIntrMachine.lean`, in which `FnRef`
  drops and interrupt signals of other threads land between ANY two micro steps of a poll.

  For every interleaving: every reachable micro state is simulated by a run of the atomic model of
  `Model/StreamPoll.lean` (`microI_refines_atomic`; outside a poll the states agree up to one
  spurious `wake`, and the polls give the same answers); C01–C03 and C05 hold as they do there; the
  C08 bound holds for the items yielded by polls whose `interruptCheck` came after the signal.
  Counted in real time the bound is `intrBound + 1`, and that is attained: the poll already past its
  `interruptCheck` when the signal arrives still yields its item.
-/
import FnGraphVerif.Theorems.C05
import FnGraphVerif.Theorems.C08
import FnGraphVerif.Proofs.MicroIntrPoll
import FnGraphVerif.Proofs.MicroIntrInv
import FnGraphVerif.Proofs.MicroIntrRefine
namespace FG

variable {c : Cfg} {x x' : MIState}

/-- the diamond / the join with an interrupt strategy -/
def exDiamond_W (st : Strat) : Cfg := { exDiamond_I with strat := st }
def exJoin_W (st : Strat) : Cfg := { exJoin_I with strat := st }

theorem exDiamond_good_W (st : Strat) : GoodCfg (exDiamond_W st) := exDiamond_good_I.of_eq rfl rfl
theorem exJoin_good_W (st : Strat) : GoodCfg (exJoin_W st) :=
  exJoin_good_I.of_eq rfl rfl

/-- **C05 (micro, interruptible)**: drops and signals at any micro step, polls, an early stream drop:
    no panic -/
theorem microI_no_panic (hc : GoodCfg c) (hr : MIReachable c x) : x.m.s.panic = false :=
  (miinv_reachable hc hr).minv.core.noPanic

/-- the run used below, diamond, `PollNextN(1)`: poll 1 yields 0; inside poll 2 `drop 0` lands in the
    drain loop (it consumes the waker registration of poll 1: a spurious `wake`) and the signal lands
    between two `drainStep`s — AFTER this poll's `interruptCheck`: the poll yields 2 as a plain item;
    poll 3 sees the signal (first poll after it: not counted by `PollNextN`), yields 1; poll 4 answers
    `Interrupted(None)` in `check`, without touching the inner stream; the stream is dropped. -/
def exMicroI_W : List MIAction :=
  [.check, .pollBegin, .drainStep, .readyStep, .finish,
   .check, .pollBegin, .drop 0, .drainStep, .interrupt, .drainStep, .readyStep, .finish,
   .check, .pollBegin, .drainStep, .readyStep, .finish,
   .check, .dropStream]

example :
    let x := miexRun (exDiamond_W (.pollN 1)) exMicroI_W
    MIReachable (exDiamond_W (.pollN 1)) x ∧ x.m.s.panic = false ∧ x.m.s.yielded = [0, 2, 1] ∧
      x.ret = some (.intNone, none) ∧ x.m.s.streamDropped = true :=
  ⟨miexRun_reachable (by decide),
   microI_no_panic (exDiamond_good_W _) (miexRun_reachable (by decide)), by decide, by decide, by decide⟩

/-- **C05 (micro, interruptible, no lost wake-up)**: whenever the consumer is outside a poll of the
    wrapper, parked (its last poll answered `Pending`), and some function has all its predecessors
    dropped — no matter at which micro step of which poll those drops (and any signals) landed — a
    wake-up has been signalled. -/
theorem microI_no_lost_wakeup (hc : GoodCfg c) (hr : MIReachable c x) (hw : x.w = .idle)
    (hd : x.m.s.streamDropped = false) (hp : x.m.s.lastPending = true) (hn : needsPoll c x.m.s) :
    x.m.s.wake = true :=
  have hi := miinv_reachable hc hr
  hi.minv.core.no_lost_wakeup (hi.minv.park (hi.wIdle hw)) hd hp hn

/-- the mid-poll form: once the drain loop has seen the done channel empty, a consumer that still
    holds its senders is woken or registered on a still empty channel — whatever lands afterwards -/
theorem microI_registered (hc : GoodCfg c) (hr : MIReachable c x) (hpc : x.m.pc = .readyPoll)
    (htx : x.m.s.txOpen = true) : x.m.s.wake = true ∨ (x.m.s.doneQ = [] ∧ x.m.s.doneRxWaker = true) :=
  (miinv_reachable hc hr).minv.registered hpc htx

/-- non-vacuity, join `0 → 2 ← 1`, `FinishCurrent`: both drops AND the signal land inside the third
    poll, after the `drainStep` that registered the waker: the poll answers `Pending`, node 2 needs a
    poll, `wake` is set; the signal is still in the channel (`sent`) for the next `interruptCheck`. -/
example :
    let x := miexRun (exJoin_W .finish)
      [.check, .pollBegin, .drainStep, .readyStep, .finish, .check, .pollBegin, .drainStep, .readyStep, .finish,
       .check, .pollBegin, .drainStep, .drop 0, .interrupt, .drop 1, .readyStep, .finish]
    MIReachable (exJoin_W .finish) x ∧ x.w = .idle ∧ x.m.s.streamDropped = false ∧ x.m.s.lastPending = true ∧
      x.ret = some (.pending, none) ∧ needsPoll (exJoin_W .finish) x.m.s ∧ x.m.s.wake = true ∧
      x.m.s.im.sent = true :=
  ⟨miexRun_reachable (by decide), by decide, by decide, by decide, by decide,
   ⟨2, by decide, by decide, by decide⟩, by decide, by decide⟩

/-- a parked, unwoken consumer: every unyielded function has an undropped direct predecessor -/
theorem microI_parked_not_stalled (hc : GoodCfg c) (hr : MIReachable c x) (hw : x.w = .idle)
    (hd : x.m.s.streamDropped = false) (hp : x.m.s.lastPending = true) :
    x.m.s.wake = true ∨
    ∀ v, v < c.n → v ∉ x.m.s.yielded → ∃ p ∈ parents c.D v, p ∉ x.m.s.droppedRefs :=
  have hi := miinv_reachable hc hr
  hi.minv.core.parked_not_stalled (hi.minv.park (hi.wIdle hw)) hd hp

/-- a poll of the wrapper that completes in `check` (the inner stream is not polled) never answers `Pending` -/
theorem microI_check_not_pending (hs : mistep? c x .check = some x') (hw : x'.w = .idle) :
    ∃ o, x'.ret = some (o, none) ∧ o ≠ .pending ∧ x'.m.s.lastPending = false := by
  obtain ⟨_, _, ⟨_, rfl⟩ | ⟨hpi, rfl⟩⟩ := mistep_check_iff.mp hs
  · cases hw
  · have hne := pollNext_noInner (u := .pending) hpi
    exact ⟨_, rfl, hne, by simp [afterCheckOuter, hne]⟩

/-- **C05 (micro, interruptible)**: when a poll of the wrapper completes with `Pending` (the `finish`
    that produced it) and `wake` is not set afterwards, every unyielded function is blocked by an
    undropped `FnRef` of a direct predecessor — whatever drops and signals landed inside that poll. -/
theorem microI_pending_not_stalled (hc : GoodCfg c) (hr : MIReachable c x)
    (hs : mistep? c x .finish = some x') (hp : x'.ret.map Prod.fst = some .pending) :
    x'.m.s.wake = true ∨
    ∀ v, v < c.n → v ∉ x'.m.s.yielded → ∃ p ∈ parents c.D v, p ∉ x'.m.s.droppedRefs := by
  have hr' := MIReachable.step .finish hr hs
  obtain ⟨hw0, r, _, rfl⟩ := mistep_finish_iff.mp hs
  -- unfold first (see `afterCheck`)
  have hsd : (finR x.m.s r).streamDropped = false := by
    unfold finR; exact ((miinv_reachable hc hr).wReturned hw0).2.1
  have hlp : (finR x.m.s r).lastPending = true := by
    unfold finR; exact decide_eq_true (Option.some.inj hp)
  exact microI_parked_not_stalled hc hr' rfl hsd hlp

/-- non-vacuity on the diamond, `FinishCurrent`: after yielding 0 the second poll answers `Pending`
    with `wake = false` (0's ref is live: 1, 2 are blocked by 0, 3 by 1 and 2), although a signal
    landed inside the poll … -/
example :
    let x := miexRun (exDiamond_W .finish)
      [.check, .pollBegin, .drainStep, .readyStep, .finish, .check, .pollBegin, .interrupt, .drainStep, .readyStep]
    let x' := miexRun (exDiamond_W .finish)
      [.check, .pollBegin, .drainStep, .readyStep, .finish, .check, .pollBegin, .interrupt, .drainStep, .readyStep,
       .finish]
    MIReachable (exDiamond_W .finish) x ∧ mistep? (exDiamond_W .finish) x .finish = some x' ∧
      x'.ret.map Prod.fst = some .pending ∧ x'.m.s.wake = false :=
  ⟨miexRun_reachable (by decide), by decide, by decide, by decide⟩

/-- … and with `drop 0` landing between the registering `drainStep` and `readyStep` (and the signal
    right after it) the poll still answers `Pending` but `wake = true`: the left disjunct.  The next
    poll sees the signal and hands the item on as `Interrupted(Some 2)`. -/
example :
    let x := miexRun (exDiamond_W .finish)
      [.check, .pollBegin, .drainStep, .readyStep, .finish,
       .check, .pollBegin, .drainStep, .drop 0, .interrupt, .readyStep]
    let x' := miexRun (exDiamond_W .finish)
      [.check, .pollBegin, .drainStep, .readyStep, .finish,
       .check, .pollBegin, .drainStep, .drop 0, .interrupt, .readyStep, .finish]
    let x'' := miexRun (exDiamond_W .finish)
      [.check, .pollBegin, .drainStep, .readyStep, .finish,
       .check, .pollBegin, .drainStep, .drop 0, .interrupt, .readyStep, .finish,
       .check, .pollBegin, .drainStep, .drainStep, .readyStep, .finish]
    MIReachable (exDiamond_W .finish) x ∧ mistep? (exDiamond_W .finish) x .finish = some x' ∧
      x'.ret.map Prod.fst = some .pending ∧ x'.m.s.wake = true ∧ x'.m.s.doneQ = [0] ∧
      x''.ret = some (.intSome, some 2) :=
  ⟨miexRun_reachable (by decide), by decide, by decide, by decide, by decide, by decide⟩

/-- **C03 (micro, interruptible)**: nothing is queued or yielded twice -/
theorem microI_yield_nodup (hc : GoodCfg c) (hr : MIReachable c x) : (x.m.s.readyQ ++ x.m.s.yielded).Nodup :=
  (miinv_reachable hc hr).minv.core.queueNodup

/-- **C02 (micro, interruptible)**: a function is queued / yielded only after the `FnRef`s of all its
    ancestors were dropped -/
theorem microI_yield_after_ancestors (hc : GoodCfg c) (hr : MIReachable c x) {u v : Nat}
    (hv : v ∈ x.m.s.readyQ ∨ v ∈ x.m.s.yielded) (huv : ReachP c.D u v) :
    u ∈ x.m.s.droppedRefs ∧ u ∉ x.m.s.live :=
  (miinv_reachable hc hr).minv.core.yield_after_ancestors hv huv

/-- **C01 (micro, interruptible)**: two functions ordered by the scheduling graph never have live
    `FnRef`s together -/
theorem microI_no_ancestor_live (hc : GoodCfg c) (hr : MIReachable c x) {u v : Nat}
    (hu : u ∈ x.m.s.live) (hv : v ∈ x.m.s.live) : ¬ ReachP c.D u v :=
  (miinv_reachable hc hr).minv.core.no_ancestor_live hu hv

/-- non-vacuity: in the run `exMicroI_W` node 2 was yielded by the poll in which `drop 0` landed;
    after poll 3 the unordered nodes 1 and 2 have live refs together -/
example :
    let x := miexRun (exDiamond_W (.pollN 1)) (exMicroI_W.take 18)
    MIReachable (exDiamond_W (.pollN 1)) x ∧ x.m.s.readyQ ++ x.m.s.yielded = [0, 2, 1] ∧
      ReachP (exDiamond_W (.pollN 1)).D 0 2 ∧ 0 ∈ x.m.s.droppedRefs ∧ 1 ∈ x.m.s.live ∧ 2 ∈ x.m.s.live :=
  ⟨miexRun_reachable (by decide), by decide, ReachP.edge ⟨⟨0, 2, .logic⟩, by decide, rfl, rfl⟩,
   by decide, by decide, by decide⟩

/-- **refinement, one poll**: from a state outside a poll, the interference-free schedule
    `check ; pollBegin ; drainStep^(|doneQ|+1) ; readyStep ; finish` (when the wrapper polls the inner
    stream) resp. `check` alone (when it does not) is enabled and computes exactly the atomic
    `sipoll c true`: the same state — including `wake`, `lastPending` and the wrapper's `im` — and the
    same answer. -/
theorem microI_refines_atomic_poll (c : Cfg) (x : MIState) (hw : x.w = .idle) (hpc : x.m.pc = .idle)
    (hsd : x.m.s.streamDropped = false) :
    ∃ x', mirun c x (if pollsInner c.strat x.m.s.im then pollSchedule (x.m.s.doneQ.length + 1) else [.check])
        = some x' ∧
      x'.w = .idle ∧ x'.m.pc = .idle ∧ x'.m.s = (sipoll c true x.m.s).1 ∧
      x'.ret = some (sipoll c true x.m.s).2 := by
  cases hpi : pollsInner c.strat x.m.s.im with
  | true =>
    obtain ⟨x', h1, h2, h3, h4, h5⟩ := mirun_poll_inner c x hw hpc hsd hpi
    exact ⟨x', by simpa using h1, h2, h3, h4, h5⟩
  | false =>
    obtain ⟨x', h1, h2, h3, h4, h5⟩ := mirun_poll_outer c x hw hsd hpi
    exact ⟨x', by simpa using h1, h2, h3.trans hpc, h4, h5⟩

/-- non-vacuity: on the diamond (`PollNextN(1)`) with `doneQ = [2, 1]` pending and the signal in the
    channel, the interference-free poll needs 3 `drainStep`s and yields 3 as a plain item (first poll
    after the signal); the poll after it answers `Interrupted(None)` in `check` alone -/
example :
    let x := miexRun (exDiamond_W (.pollN 1))
      [.check, .pollBegin, .drainStep, .readyStep, .finish, .drop 0,
       .check, .pollBegin, .drainStep, .drainStep, .readyStep, .finish,
       .check, .pollBegin, .drainStep, .readyStep, .finish, .drop 2, .drop 1, .interrupt]
    MIReachable (exDiamond_W (.pollN 1)) x ∧ x.w = .idle ∧ x.m.s.doneQ = [2, 1] ∧
      pollsInner (exDiamond_W (.pollN 1)).strat x.m.s.im = true ∧
      (mirun (exDiamond_W (.pollN 1)) x (pollSchedule 3)).map (fun y => (y.m.s, y.ret)) =
        some ((sipoll (exDiamond_W (.pollN 1)) true x.m.s).1, some (sipoll (exDiamond_W (.pollN 1)) true x.m.s).2) ∧
      (sipoll (exDiamond_W (.pollN 1)) true x.m.s).2 = (.noInt, some 3) ∧
      pollsInner (exDiamond_W (.pollN 1)).strat (sipoll (exDiamond_W (.pollN 1)) true x.m.s).1.im = false ∧
      (sipoll (exDiamond_W (.pollN 1)) true (sipoll (exDiamond_W (.pollN 1)) true x.m.s).1).2 = (.intNone, none) :=
  ⟨miexRun_reachable (by decide), by decide, by decide, by decide, by decide, by decide, by decide, by decide⟩

/-- **refinement, whole runs, every interleaving**: every reachable micro state `x` is simulated by
    a run of the atomic model (`SReachG c s seen n last`: `s` is reachable by an atomic schedule in
    which `seen` tells whether a signal was sent, `n` is its `yieldsAfterIntr` and `last` the answer of
    its last poll).  `MITrS` (`Proofs/MicroIntrSim.lean`) spells out the correspondence at each program
    point: which drops and signals commute to before and which to after the atomic poll. -/
theorem microI_refines_atomic (hc : GoodCfg c) (hr : MIReachable c x) :
    ∃ s seen n last, SReachG c s seen n last ∧ MITrS c x s seen n last :=
  mitr_reachable hc hr

/-- the instrumented atomic runs are the atomic schedules -/
theorem atomic_schedule_of_SReachG {s : SState} {seen : Bool} {n : Nat} {last : Option (Out × Option Nat)}
    (h : SReachG c s seen n last) :
    ∃ bs, srun c true (sinit c) bs = some s ∧ bs.any (· == .interrupt) = seen ∧
      yieldsAfterIntr c (sinit c) false bs = n := by
  induction h with
  | init => exact ⟨[], rfl, rfl, rfl⟩
  | step a _ hs ih =>
    rename_i s s' seen n _
    obtain ⟨bs, h1, h2, h3⟩ := ih
    refine ⟨bs ++ [a], ?_, ?_, ?_⟩
    · rw [(srun_isRun c true).append, h1]
      exact (srun_isRun c true).cons_some hs []
    · rw [List.any_append, h2]
      simp
    · rw [yieldsAfterIntr_append c bs [a] _ _ _ h1, h3, h2]
      simp [yieldsAfterIntr, hs]

/-- **refinement, completed polls**: whenever the consumer is outside a poll of the wrapper — in
    particular right after a poll has completed — the micro state is a state of the atomic model,
    reached by an atomic schedule `bs` with the same signals-sent flag and the same count of items
    yielded after the signal, up to one spurious `wake`; and the last poll gave the atomic answer. -/
theorem microI_idle_atomic (hc : GoodCfg c) (hr : MIReachable c x) (hw : x.w = .idle) :
    ∃ bs s w last, srun c true (sinit c) bs = some s ∧ SReachG c s x.sigSeen x.yAfter last ∧
      x.m.s = { s with wake := s.wake || w } ∧ x.ret = last ∧
      bs.any (· == .interrupt) = x.sigSeen ∧ yieldsAfterIntr c (sinit c) false bs = x.yAfter := by
  obtain ⟨s, seen, n, last, hg, hsim⟩ := mitr_reachable hc hr
  obtain ⟨w, hms, rfl, rfl, hret⟩ := hsim.of_idle hw
  obtain ⟨bs, h1, h2, h3⟩ := atomic_schedule_of_SReachG hg
  exact ⟨bs, s, w, last, h1, hg, hms, hret, h2, h3⟩

/-- the no-lost-wake-up statement a second time, on purpose: derived from the ATOMIC theorem
    `no_lost_wakeup` through the refinement (the spurious `wake` of the micro state only helps), as a
    cross-check of the route through `MIInv` -/
theorem microI_no_lost_wakeup_via_atomic (hc : GoodCfg c) (hr : MIReachable c x) (hw : x.w = .idle)
    (hd : x.m.s.streamDropped = false) (hp : x.m.s.lastPending = true) (hn : needsPoll c x.m.s) :
    x.m.s.wake = true := by
  obtain ⟨_, s, w, _, _, hg, hms, _⟩ := microI_idle_atomic hc hr hw
  rw [hms] at hd hp hn ⊢
  have := no_lost_wakeup hc hg.reachable hd hp hn
  show (s.wake || w) = true
  rw [this]; rfl

/-- non-vacuity of the whole-run refinement on the diamond, `PollNextN(1)`, run `exMicroI_W` (a drop
    and the signal land in the middle of poll 2): after poll 2 the micro state is the atomic state
    after `poll, drop 0, poll, interrupt` — the drop commuted to before, the signal to after the poll —
    except for the spurious `wake`; after poll 4 the states are equal. -/
example :
    let c := exDiamond_W (.pollN 1)
    let x := miexRun c (exMicroI_W.take 13)
    let s := exRun_I c true [.poll, .drop 0, .poll, .interrupt]
    MIReachable c x ∧ SReachable c true s ∧ x.w = .idle ∧ x.m.s = { s with wake := s.wake || true } ∧
      s.wake = false ∧ x.ret = some (sipoll c true (exRun_I c true [.poll, .drop 0])).2 ∧
      x.ret = some (.noInt, some 2) :=
  ⟨miexRun_reachable (by decide), exRun_reachable_I (by decide), by decide, by decide, by decide, by decide,
   by decide⟩

example :
    let c := exDiamond_W (.pollN 1)
    let x := miexRun c (exMicroI_W.take 19)
    MIReachable c x ∧ x.w = .idle ∧ x.m.s = exRun_I c true [.poll, .drop 0, .poll, .interrupt, .poll, .poll] ∧
      x.yAfter = yieldsAfterIntr c (sinit c) false [.poll, .drop 0, .poll, .interrupt, .poll, .poll] :=
  ⟨miexRun_reachable (by decide), by decide, by decide, by decide⟩

/-- non-vacuity, a state in the MIDDLE of a poll (`readyPoll`, the atomic run is ahead): the rest of
    the micro poll (`finS`) computes the atomic state after `poll, drop 0, poll, interrupt` -/
example :
    let c := exDiamond_W (.pollN 1)
    let x := miexRun c (exMicroI_W.take 11)
    let s := exRun_I c true [.poll, .drop 0, .poll, .interrupt]
    MIReachable c x ∧ x.w = .inner ∧ x.m.pc = .readyPoll ∧ finS x.m.s = adj s true s.im :=
  ⟨miexRun_reachable (by decide), by decide, by decide, by decide⟩

/-- **C08 (micro, interruptible streams)**: in every micro run — drops and signals landing at any
    micro step — the items yielded by polls whose `interruptCheck` came after the (first) signal obey
    the atomic bound.  Proved through the refinement from `stream_yields_after_interrupt_le`. -/
theorem microI_yields_after_interrupt_le (hc : GoodCfg c)
    (hst : c.strat = .finish ∨ ∃ k, c.strat = .pollN k) (hr : MIReachable c x) :
    x.yAfter ≤ intrBound c.strat true := by
  obtain ⟨s, seen, n, last, hg, hsim⟩ := mitr_reachable hc hr
  obtain ⟨bs, _, _, hbs⟩ := atomic_schedule_of_SReachG hg
  have hb : n ≤ intrBound c.strat true := hbs ▸ stream_yields_after_interrupt_le c hst bs
  exact Nat.le_trans hsim.yAfter_le hb

/-- the real-time count (items yielded after the signal was SENT) exceeds the other one by at most
    the one item of the poll that was already past its `interruptCheck` … -/
theorem microI_yields_realtime_le (hc : GoodCfg c)
    (hst : c.strat = .finish ∨ ∃ k, c.strat = .pollN k) (hr : MIReachable c x) :
    x.yAfterRT ≤ intrBound c.strat true + 1 := by
  have h1 := (rtinv_reachable hr).le
  have h2 := microI_yields_after_interrupt_le hc hst hr
  omega

/-- … and that is attained: in `exMicroI_W` (`PollNextN(1)`, bound 1) the signal lands inside poll 2,
    which still yields 2; poll 3 yields 1; then `Interrupted(None)`.  Two items after the signal in
    real time, one of them by a poll that began after it.  So the atomic bound, read in real time, does
    NOT hold at micro-step granularity: the poll in flight is not affected by the signal. -/
example :
    let c := exDiamond_W (.pollN 1)
    let x := miexRun c exMicroI_W
    MIReachable c x ∧ intrBound c.strat true = 1 ∧ x.yAfter = 1 ∧ x.yAfterRT = 2 ∧
      ¬ x.yAfterRT ≤ intrBound c.strat true :=
  ⟨miexRun_reachable (by decide), by decide, by decide, by decide, by decide⟩

/-- `FinishCurrent`: the signal lands while the inner poll is `Pending`-bound; the item waited for is
    handed on as `Interrupted(Some 2)` by the next poll (bound 1 attained), then end of stream -/
example :
    let c := exDiamond_W .finish
    let x := miexRun c
      [.check, .pollBegin, .drainStep, .readyStep, .finish,
       .check, .pollBegin, .drainStep, .interrupt, .drop 0, .readyStep, .finish,
       .check, .pollBegin, .drainStep, .drainStep, .readyStep, .finish, .check]
    MIReachable c x ∧ x.yAfter = 1 ∧ intrBound c.strat true = 1 ∧ x.m.s.yielded = [0, 2] ∧
      x.ret = some (.endd, none) :=
  ⟨miexRun_reachable (by decide), by decide, by decide, by decide, by decide⟩

end FG
