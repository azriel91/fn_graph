/-
  Theorems/TracePreds.lean — EVERY MODEL RUN SATISFIES THE SPECIFICATION PREDICATES that the
  correspondence driver evaluates on real traces (`predFut`, `Model/Monitor.lean`).

  Exactly ONE predicate is false of some model run (`Proofs/QSearch.lean` searches the runs of the
  small graphs for such predicates): C09 "processed=started", `proc == m.realInvoked`, a comparison
  of LISTS.  `proc` is the hand-out order (`fn_ids_processed`), `realInvoked` the order in which the
  closures were started, and the model lets the `invoke` actions of several handed-out functions
  happen in any order: a potential false alarm of the checker if a real executor ever started
  closures in another order than it handed them out (`preds_hold_original_false`).  The side
  condition `RunOk.invokeFifo` — the started functions, in start order, are an initial segment of
  the hand-outs — repairs it; at the return of an outcome it is what the predicate itself says, since
  there `invoked` and `handedOut` have the same members.  `preds_hold` has it; `preds_hold_partial`
  shows all other predicates without it.

  No model step shows `panic` / `livelock`, so their `noReturnNotes` are never emitted along a model
  run.  The proof is the coupling of `Proofs/PredCoupling.lean` (`preds_run`), which also serves the
  runs from a carried start (`Theorems/CarriedMonitor.lean`); here all its guards but the order of
  the starts hold (`preds_fresh`).
-/
import FnGraphVerif.Proofs.PredCoupling
import FnGraphVerif.Proofs.ObsSchedule
namespace FG

/-- the side condition on a run: closures are started in hand-out order -/
structure RunOk (evs : List Ev) : Prop where
  invokeFifo : (evs.filterMap Ev.invoke?) <+: (evs.filterMap Ev.handout?)

theorem runOk_iff_startsFollowHandouts {evs : List Ev} : RunOk evs ↔ StartsFollowHandouts {} evs :=
  ⟨fun h => by unfold StartsFollowHandouts; simpa using h.invokeFifo, fun h => ⟨by unfold StartsFollowHandouts at h; simpa using h⟩⟩

/-- a run from `init` with the fresh predicate state: all guards of `Note.Open` but the order of
    the starts hold -/
theorem preds_fresh {x : MonCtx} (hx : GoodCtx x) {evs : List Ev} {s : PState}
    (h : ObsRun x (init x.c) evs s) :
    ∀ n ∈ (predRun x {} evs).2, n.ok = true ∨ (n.isProcStarted ∧ ¬ StartsFollowHandouts {} evs) := by
  intro n hn
  have hc : Coupled x false false 0 True True {} (initWith x.c false false 0) [] :=
    coupled_init x false false 0 PredSt.fresh_empty (fun _ _ => ⟨rfl, rfl⟩) (fun _ => ⟨⟨rfl, rfl, rfl⟩, rfl⟩)
  rcases preds_run hx (initWith_fresh x.c ▸ h) {} [] hc n hn with h1 | h1 | ⟨_, h2⟩ | ⟨_, h2, _⟩
  · exact .inl h1
  · exact .inr h1
  all_goals exact absurd trivial h2

/-- **Every model run satisfies every specification predicate of `predFut`**, given
    `hok : RunOk evs` (closures are started in hand-out order).  Only the C09 note
    "processed=started" needs it; without it the statement is false (`preds_hold_original_false`). -/
theorem preds_hold {x : MonCtx} (hx : GoodCtx x) {evs : List Ev} {s : PState}
    (h : ObsRun x (init x.c) evs s) (hok : RunOk evs) : ∀ n ∈ (predRun x {} evs).2, n.ok = true :=
  fun n hn => (preds_fresh hx h n hn).resolve_right fun h1 => h1.2 (runOk_iff_startsFollowHandouts.mp hok)

/-- without the side condition: every note is ok except possibly C09 "processed=started" -/
theorem preds_hold_partial {x : MonCtx} (hx : GoodCtx x) {evs : List Ev} {s : PState}
    (h : ObsRun x (init x.c) evs s) :
    ∀ n ∈ (predRun x {} evs).2, n.ok = true ∨ n.isProcStarted :=
  fun n hn => (preds_fresh hx h n hn).imp_right And.left

theorem preds_hold_family {x : MonCtx} (hx : GoodCtx x) {evs : List Ev} {s : PState}
    (h : ObsRun x (init x.c) evs s) (p : String) (hp : p ≠ "C09") :
    ∀ n ∈ (predRun x {} evs).2, n.property = p → n.ok = true :=
  fun n hn hnp => (preds_hold_partial hx h n hn).resolve_right
    fun h1 => hp (hnp ▸ Note.isProcStarted_property h1)

theorem preds_hold_C01 {x : MonCtx} (hx : GoodCtx x) {evs : List Ev} {s : PState}
    (h : ObsRun x (init x.c) evs s) : ∀ n ∈ (predRun x {} evs).2, n.property = "C01" → n.ok = true :=
  preds_hold_family hx h "C01" (by decide)
theorem preds_hold_C02 {x : MonCtx} (hx : GoodCtx x) {evs : List Ev} {s : PState}
    (h : ObsRun x (init x.c) evs s) : ∀ n ∈ (predRun x {} evs).2, n.property = "C02" → n.ok = true :=
  preds_hold_family hx h "C02" (by decide)
theorem preds_hold_C03 {x : MonCtx} (hx : GoodCtx x) {evs : List Ev} {s : PState}
    (h : ObsRun x (init x.c) evs s) : ∀ n ∈ (predRun x {} evs).2, n.property = "C03" → n.ok = true :=
  preds_hold_family hx h "C03" (by decide)
theorem preds_hold_C04 {x : MonCtx} (hx : GoodCtx x) {evs : List Ev} {s : PState}
    (h : ObsRun x (init x.c) evs s) : ∀ n ∈ (predRun x {} evs).2, n.property = "C04" → n.ok = true :=
  preds_hold_family hx h "C04" (by decide)
theorem preds_hold_C06 {x : MonCtx} (hx : GoodCtx x) {evs : List Ev} {s : PState}
    (h : ObsRun x (init x.c) evs s) : ∀ n ∈ (predRun x {} evs).2, n.property = "C06" → n.ok = true :=
  preds_hold_family hx h "C06" (by decide)
theorem preds_hold_C07 {x : MonCtx} (hx : GoodCtx x) {evs : List Ev} {s : PState}
    (h : ObsRun x (init x.c) evs s) : ∀ n ∈ (predRun x {} evs).2, n.property = "C07" → n.ok = true :=
  preds_hold_family hx h "C07" (by decide)
theorem preds_hold_C08 {x : MonCtx} (hx : GoodCtx x) {evs : List Ev} {s : PState}
    (h : ObsRun x (init x.c) evs s) : ∀ n ∈ (predRun x {} evs).2, n.property = "C08" → n.ok = true :=
  preds_hold_family hx h "C08" (by decide)
theorem preds_hold_C10 {x : MonCtx} (hx : GoodCtx x) {evs : List Ev} {s : PState}
    (h : ObsRun x (init x.c) evs s) : ∀ n ∈ (predRun x {} evs).2, n.property = "C10" → n.ok = true :=
  preds_hold_family hx h "C10" (by decide)
/-- C09: all clauses under `RunOk`; without it all clauses but "processed=started" -/
theorem preds_hold_C09 {x : MonCtx} (hx : GoodCtx x) {evs : List Ev} {s : PState}
    (h : ObsRun x (init x.c) evs s) (hok : RunOk evs) :
    ∀ n ∈ (predRun x {} evs).2, n.property = "C09" → n.ok = true :=
  fun n hn _ => preds_hold hx h hok n hn

/-! ### the original statement is false: kernel-checked counterexample

  The diamond `0→1, 0→2, 1→3, 2→3` (unlimited, no interrupt, no failure).  Functions 2 and 1 are
  handed out in this order and their closures are started in the order 1, 2.  Everything else is a
  clean complete run; it returns `processed = [0, 2, 1, 3]` while the starts were `[0, 1, 2, 3]`. -/

def cxStartsOutOfOrderSchedule : List SchedItem :=
  ([.schedPoll, .invoke 0, .finish 0 true, .queuerRecv, .schedPoll, .schedPoll, .invoke 1, .invoke 2,
    .finish 2 true, .finish 1 true, .queuerRecv, .queuerRecv, .schedPoll, .invoke 3, .finish 3 true,
    .queuerRecv, .schedPoll, .schedEnd, .queuerEnd, .ret] : List Action).map SchedItem.act

def cxEvents_Q_Q_Q : List Ev :=
  [.handout 0, .invoke 0, .fin 0 true, .handout 2, .handout 1, .invoke 1, .invoke 2, .fin 2 true,
   .fin 1 true, .handout 3, .invoke 3, .fin 3 true, .retOutcome true [0, 2, 1, 3] [] [] "cont"]

theorem cxStartsOutOfOrder_obsRun : ∃ s, ObsRun (xDiamond exCfg_F) (init exCfg_F) cxEvents_Q_Q_Q s :=
  obsRun_of_obsEvents (l := cxStartsOutOfOrderSchedule) (by decide)

/-- exactly one note fails, the C09 "processed=started" one -/
theorem cxStartsOutOfOrder_fails : ((predRun (xDiamond exCfg_F) {} cxEvents_Q_Q_Q).2.filter (fun n => !n.ok)).map Note.property
    = ["C09"] := by decide

/-- the run does not start the closures in hand-out order -/
example : ¬ RunOk cxEvents_Q_Q_Q := fun h => absurd h.invokeFifo (by decide)

theorem not_all_ok_of_failing {l : List Note} {ps : List String} {Q : String → Prop}
    (hf : (l.filter (fun n => !n.ok)).map Note.property = ps) {p : String} (hp : p ∈ ps) (hq : Q p) :
    ¬ ∀ n ∈ l, Q n.property → n.ok = true := fun H => by
  obtain ⟨n, hn, rfl⟩ := List.mem_map.mp (hf ▸ hp)
  have hm := List.mem_filter.mp hn
  simp [H n hm.1 hq] at hm

theorem preds_hold_original_false :
    ¬ (∀ (x : MonCtx), GoodCtx x → ∀ (evs : List Ev) (s : PState), ObsRun x (init x.c) evs s →
        ∀ n ∈ (predRun x {} evs).2, n.ok = true) := by
  intro h
  obtain ⟨s, hs⟩ := cxStartsOutOfOrder_obsRun
  exact not_all_ok_of_failing (Q := fun _ => True) cxStartsOutOfOrder_fails (List.mem_singleton_self _) trivial
    fun n hn _ => h _ xDiamond_exCfg_good _ s hs n hn

/-- (1) a clean complete run of the diamond with `q` observations at its three quiescent points
    (exercises C01, C02, C03 incl. clean-all, C04, C06, C07, C09, C10, C08 noop) -/
def okSchedule : List SchedItem :=
  [.act .schedPoll, .act (.invoke 0), .act .schedPoll, .q, .act (.finish 0 true), .act .queuerRecv,
   .act .schedPoll, .act .schedPoll, .act (.invoke 2), .act (.invoke 1), .act .schedPoll, .q,
   .act (.finish 2 true), .act (.finish 1 true), .act .queuerRecv, .act .queuerRecv, .act .schedPoll,
   .act (.invoke 3), .act .schedPoll, .q, .act (.finish 3 true), .act .queuerRecv, .act .schedPoll,
   .act .schedEnd, .act .queuerEnd, .act .ret]

def okEvents_Q : List Ev :=
  [.handout 0, .invoke 0, .q, .fin 0 true, .handout 2, .handout 1, .invoke 2, .invoke 1, .q, .fin 2 true,
   .fin 1 true, .handout 3, .invoke 3, .q, .fin 3 true, .retOutcome true [0, 2, 1, 3] [] [] "cont"]

theorem ok_obsRun_Q : ∃ s, ObsRun (xDiamond exCfg_F) (init exCfg_F) okEvents_Q s :=
  obsRun_of_obsEvents (l := okSchedule) (by decide)

theorem ok_runOk_Q : RunOk okEvents_Q := ⟨by decide⟩

/-- the theorem applied: all 50 notes of this run are ok -/
example : ∀ n ∈ (predRun (xDiamond exCfg_F) {} okEvents_Q).2, n.ok = true := by
  obtain ⟨s, hs⟩ := ok_obsRun_Q
  exact preds_hold xDiamond_exCfg_good hs ok_runOk_Q

set_option maxRecDepth 100000 in
example : (predRun (xDiamond exCfg_F) {} okEvents_Q).2.length = 50 := by decide

/-- (2) `FinishCurrent`: the signal arrives at a quiescent point; one more function (2) is handed
    out as `Interrupted(Some 2)` and started, the call returns `Interrupted` with 1 and 3 not
    processed; a second signal after the return (exercises the C08 start bound, the C08 / C10
    "never returns" clauses at `q`, started-all-reported) -/
def intrCfg_Q : Cfg := { exCfg_F with strat := .finish }

def intrSchedule : List SchedItem :=
  [.act .schedPoll, .act (.invoke 0), .act .schedPoll, .q, .act .interrupt, .act (.finish 0 true),
   .act .queuerRecv, .act .schedPoll, .act (.invoke 2), .act .schedPoll, .q, .act (.finish 2 true),
   .act .queuerRecv, .act .queuerEnd, .act .schedEnd, .act .ret, .act .interrupt]

def intrEvents_Q : List Ev :=
  [.handout 0, .invoke 0, .q, .intr, .fin 0 true, .handout 2, .invoke 2, .q, .fin 2 true,
   .retOutcome false [0, 2] [1, 3] [] "break", .intr]

theorem intr_obsRun_Q : ∃ s, ObsRun (xDiamond intrCfg_Q) (init intrCfg_Q) intrEvents_Q s :=
  obsRun_of_obsEvents (l := intrSchedule) (by decide)

example : ∀ n ∈ (predRun (xDiamond intrCfg_Q) {} intrEvents_Q).2, n.ok = true := by
  obtain ⟨s, hs⟩ := intr_obsRun_Q
  exact preds_hold (xDiamond_good intrCfg_Q rfl rfl (by intro h; cases h)) hs ⟨by decide⟩

set_option maxRecDepth 100000 in
example : (predRun (xDiamond intrCfg_Q) {} intrEvents_Q).2.length = 29 := by decide

/-- (3) `try_fold` (sequential, short-circuit): function 0 succeeds, function 2 fails, the call
    returns `Err 2` (exercises the C07 first-error predicate and C10 with limit 1) -/
def shortCfg_Q : Cfg := { exCfg_F with errMode := .shortCircuit, sequential := true }

def shortSchedule : List SchedItem :=
  [.act .schedPoll, .act (.invoke 0), .q, .act (.finish 0 true), .act .queuerRecv, .act .schedPoll,
   .act (.invoke 2), .q, .act (.finish 2 false), .act .queuerEnd, .act .ret]

def shortEvents_Q : List Ev :=
  [.handout 0, .invoke 0, .q, .fin 0 true, .handout 2, .invoke 2, .q, .fin 2 false, .retErr 2]

theorem short_obsRun_Q : ∃ s, ObsRun (xDiamond shortCfg_Q) (init shortCfg_Q) shortEvents_Q s :=
  obsRun_of_obsEvents (l := shortSchedule) (by decide)

example : ∀ n ∈ (predRun (xDiamond shortCfg_Q) {} shortEvents_Q).2, n.ok = true := by
  obtain ⟨s, hs⟩ := short_obsRun_Q
  exact preds_hold (xDiamond_good shortCfg_Q rfl rfl (fun _ => rfl)) hs ⟨by decide⟩

/-- (4) limit 2: `q` observations below the limit (one function in flight: after the root started,
    after `2` returned while `1` runs, after `3` started) and at the limit (`1`, `2` running);
    exercises the C10 work-conservation note "idle below limit" three times and the C10 "limit blocks
    completion" note four times -/
def limCfg_U : Cfg := { exCfg_F with limit := some 2 }

def limSchedule : List SchedItem :=
  [.act .schedPoll, .act (.invoke 0), .act .schedPoll, .q, .act (.finish 0 true), .act .queuerRecv,
   .act .schedPoll, .act .schedPoll, .act (.invoke 2), .act (.invoke 1), .q,
   .act (.finish 2 true), .act .queuerRecv, .act .schedPoll, .q, .act (.finish 1 true), .act .queuerRecv,
   .act .schedPoll, .act (.invoke 3), .act .schedPoll, .q, .act (.finish 3 true), .act .queuerRecv,
   .act .schedPoll, .act .schedEnd, .act .queuerEnd, .act .ret]

def limEvents_U : List Ev :=
  [.handout 0, .invoke 0, .q, .fin 0 true, .handout 2, .handout 1, .invoke 2, .invoke 1, .q, .fin 2 true,
   .q, .fin 1 true, .handout 3, .invoke 3, .q, .fin 3 true, .retOutcome true [0, 2, 1, 3] [] [] "cont"]

theorem lim_obsRun_U : ∃ s, ObsRun (xDiamond limCfg_U) (init limCfg_U) limEvents_U s :=
  obsRun_of_obsEvents (l := limSchedule) (by decide)

example : ∀ n ∈ (predRun (xDiamond limCfg_U) {} limEvents_U).2, n.ok = true := by
  obtain ⟨s, hs⟩ := lim_obsRun_U
  exact preds_hold (xDiamond_good limCfg_U rfl rfl (by intro h; cases h)) hs ⟨by decide⟩

set_option maxRecDepth 100000 in
/-- the work-conservation note is emitted at the three `q` points below the limit (not at the one
    where both `1` and `2` run) -/
example : ((predRun (xDiamond limCfg_U) {} limEvents_U).2.filter (fun n =>
    n == .prop "C10" "q idle below limit 2 with a ready function unstarted" true)).length = 3 := by decide

/-- (5) a failure (collect mode): `2` fails while `1` (handed out before) has not started yet; `1`
    starts after the failure — it does not conflict with `2` (both only read) — and `3`, which is
    ordered after `2`, never starts (exercises both C07 notes at `invoke` with a non-empty list of
    failed functions, the C07 "never returns after a failure" note at `q`, C07 errors) -/
def failCfg_U : Cfg := { exCfg_F with errMode := .collect }

def failSchedule : List SchedItem :=
  [.act .schedPoll, .act (.invoke 0), .act .schedPoll, .q, .act (.finish 0 true), .act .queuerRecv,
   .act .schedPoll, .act .schedPoll, .act (.invoke 2), .act (.finish 2 false), .act (.invoke 1),
   .act .queuerEnd, .act .schedPoll, .q, .act (.finish 1 true), .act .schedEnd, .act .ret]

def failEvents_U : List Ev :=
  [.handout 0, .invoke 0, .q, .fin 0 true, .handout 2, .handout 1, .invoke 2, .fin 2 false, .invoke 1, .q,
   .fin 1 true, .retOutcome false [0, 2, 1] [3] [2] "break"]

theorem fail_obsRun_U : ∃ s, ObsRun (xDiamond failCfg_U) (init failCfg_U) failEvents_U s :=
  obsRun_of_obsEvents (l := failSchedule) (by decide)

theorem failCfg_good_U : GoodCtx (xDiamond failCfg_U) := xDiamond_good _ rfl rfl (by intro h; cases h)

example : ∀ n ∈ (predRun (xDiamond failCfg_U) {} failEvents_U).2, n.ok = true := by
  obtain ⟨s, hs⟩ := fail_obsRun_U
  exact preds_hold failCfg_good_U hs ⟨by decide⟩

set_option maxRecDepth 100000 in
/-- the C07 note on the declarations is not trivially true: had `3` (which writes what `2` reads) started after the
    failure of `2`, the note would be false -/
example : (predFut (xDiamond failCfg_U)
    { realInvoked := [0, 2, 1], realEnded := [0, 2, 1], realEndedOk := [0, 1], realFailed := [2] }
    (.invoke 3)).2.filter (fun n => !n.ok && n.property == "C07") =
    [.prop "C07" "invoke 3" false, .prop "C07" "invoke 3 (conflicts with a failed function)" false] := rfl

/-- the text of the C07 note at the failure of `2`, for `predFut_fin_false_snd` -/
theorem fin2_failNote_text : (Ev.fin 2 false).text ++ " (a function ordered after it was started before)" =
    "end 2 err (a function ordered after it was started before)" := rfl

/-- the C07 note at the failure itself ("nothing ordered after the failing function was started
    before") is emitted in this run, with the non-empty list `[0, 2]` of started functions, and it
    is the only note of the `fin 2 false` event; it holds -/
theorem failRun_C07_note : (predFut (xDiamond failCfg_U)
    (predRun (xDiamond failCfg_U) {} (failEvents_U.take 7)).1 (.fin 2 false)).2 =
    [.prop "C07" "end 2 err (a function ordered after it was started before)" true] :=
  predFut_fin_false_snd _ _ 2 fin2_failNote_text rfl

set_option maxRecDepth 100000 in
example : (predRun (xDiamond failCfg_U) {} failEvents_U).2.filter (fun n =>
    n == .prop "C07" "end 2 err (a function ordered after it was started before)" true) =
    [.prop "C07" "end 2 err (a function ordered after it was started before)" true] ∧
    (predRun (xDiamond failCfg_U) {} (failEvents_U.take 7)).1.realInvoked = [0, 2] ∧
    (predFut (xDiamond failCfg_U) (predRun (xDiamond failCfg_U) {} (failEvents_U.take 7)).1
      (.fin 2 false)).2 =
      [.prop "C07" "end 2 err (a function ordered after it was started before)" true] :=
  ⟨by decide, by decide, failRun_C07_note⟩

set_option maxRecDepth 100000 in
example : (predRun (xDiamond failCfg_U) {} failEvents_U).2.length = 37 := by decide

set_option maxRecDepth 100000 in
/-- that note is falsifiable: had `3` (ordered after `2` in the scheduling graph) been started
    before `2` failed — a run in the wrong direction — the note would be false; a successful end
    emits no note -/
example : (predFut (xDiamond failCfg_U)
    { realInvoked := [0, 3, 2], realEnded := [0, 3], realEndedOk := [0, 3] } (.fin 2 false)).2 =
    [.prop "C07" "end 2 err (a function ordered after it was started before)" false] ∧
    (predFut (xDiamond failCfg_U)
    { realInvoked := [0, 3, 2], realEnded := [0, 3], realEndedOk := [0, 3] } (.fin 2 true)).2 = [] :=
  ⟨predFut_fin_false_snd _ _ 2 fin2_failNote_text rfl, rfl⟩

set_option maxRecDepth 100000 in
/-- the same on a whole observed trace in the wrong direction (`3` first, then `1`, `2`, and `2`
    fails): the note at the failure is among the failing ones -/
example : (Note.prop "C07" "end 2 err (a function ordered after it was started before)" false) ∈
    (predRun (xDiamond failCfg_U) {}
      [.handout 3, .invoke 3, .fin 3 true, .handout 2, .handout 1, .invoke 2, .invoke 1, .fin 2 false]).2 := by
  rw [show [Ev.handout 3, .invoke 3, .fin 3 true, .handout 2, .handout 1, .invoke 2, .invoke 1, .fin 2 false] =
    [Ev.handout 3, .invoke 3, .fin 3 true, .handout 2, .handout 1, .invoke 2, .invoke 1] ++ [.fin 2 false] from rfl,
    predRun_append, predRun_singleton]
  refine List.mem_append_right _ ?_
  rw [predFut_fin_false_snd _ _ 2 fin2_failNote_text (b := false) rfl]
  exact List.mem_singleton_self _

/-- (6) limit 0 ("0 and None mean unbounded"): the clean complete run (1) of the diamond, schedule and
    events unchanged, under `limit := some 0`; exercises the C10 note "limit 0 means unbounded, yet a
    ready function is unstarted" at each of the three `q` points (next to the C06 note, which states
    the same fact) -/
def lim0Cfg_Z : Cfg := { exCfg_F with limit := some 0 }

theorem lim0_obsRun_Z : ∃ s, ObsRun (xDiamond lim0Cfg_Z) (init lim0Cfg_Z) okEvents_Q s :=
  ok_obsRun_Q.imp fun _ h => ObsRun.limit_zero (x := xDiamond exCfg_F) rfl h

theorem lim0Cfg_good_Z : GoodCtx (xDiamond lim0Cfg_Z) := xDiamond_good _ rfl rfl (by intro h; cases h)

/-- the theorem applied: all notes of this run are ok … -/
example : ∀ n ∈ (predRun (xDiamond lim0Cfg_Z) {} okEvents_Q).2, n.ok = true := by
  obtain ⟨s, hs⟩ := lim0_obsRun_Z
  exact preds_hold lim0Cfg_good_Z hs ok_runOk_Q

/-- … in particular the C10 notes (family form) -/
example : ∀ n ∈ (predRun (xDiamond lim0Cfg_Z) {} okEvents_Q).2, n.property = "C10" → n.ok = true := by
  obtain ⟨s, hs⟩ := lim0_obsRun_Z
  exact preds_hold_C10 lim0Cfg_good_Z hs

set_option maxRecDepth 100000 in
/-- the `limit 0` note is emitted at the three `q` points (53 notes = the 50 of run (1) + 3), and with
    `limit := none` it is not emitted at all -/
example : ((predRun (xDiamond lim0Cfg_Z) {} okEvents_Q).2.filter (fun n =>
      n == .prop "C10" "q limit 0 means unbounded, yet a ready function is unstarted" true)).length = 3 ∧
    (predRun (xDiamond lim0Cfg_Z) {} okEvents_Q).2.length = 53 ∧
    ((predRun (xDiamond exCfg_F) {} okEvents_Q).2.filter (fun n =>
      n == .prop "C10" "q limit 0 means unbounded, yet a ready function is unstarted" true)).length = 0 := by
  decide

set_option maxRecDepth 100000 in
/-- the note is falsifiable: `0` has returned, only `2` was started — `1` is ready and unstarted (an
    implementation that read limit 0 as "one at a time"): the C10 note (and the C06 note) is false;
    with both `1` and `2` started it is true; after an interrupt or a failure, or in a sequential
    run, it is not emitted -/
example : (predFut (xDiamond lim0Cfg_Z)
      { realInvoked := [0, 2], realEnded := [0], realEndedOk := [0] } .q).2.filter (fun n => !n.ok) =
      [.prop "C06" "q" false,
       .prop "C10" "q limit 0 means unbounded, yet a ready function is unstarted" false] ∧
    (predFut (xDiamond lim0Cfg_Z)
      { realInvoked := [0, 2, 1], realEnded := [0], realEndedOk := [0] } .q).2.filter
        (fun n => n.property == "C10") =
      [.prop "C10" "q limit 0 means unbounded, yet a ready function is unstarted" true] ∧
    (predFut (xDiamond lim0Cfg_Z)
      { realInvoked := [0, 2], realEnded := [0], realEndedOk := [0], intrAt := some 1 } .q).2.filter
        (fun n => n.property == "C10") = [] ∧
    (predFut (xDiamond lim0Cfg_Z)
      { realInvoked := [0, 2, 1], realEnded := [0, 1], realEndedOk := [0], realFailed := [1] } .q).2.filter
        (fun n => n.property == "C10") = [] ∧
    (predFut (xDiamond { lim0Cfg_Z with sequential := true })
      { realInvoked := [0, 2], realEnded := [0], realEndedOk := [0] } .q).2.filter
        (fun n => n.property == "C10") = [] :=
  ⟨rfl, rfl, rfl, rfl, rfl⟩

/-- **C10** (work conservation): limit `l+1`, not
    sequential, no interrupt, no failure: at a quiescent point with fewer than `l+1` functions in
    flight every function whose scheduling-graph predecessors have all returned ok has been handed
    out and invoked.  (`work_conserving` is the general form with `underLimit c s`,
    of which C06 `maximal_progress` is the unlimited instance.) -/
theorem limit_work_conserving {c : Cfg} {s : PState} (hc : GoodCfg c) (hr : Reachable c s)
    (hq : Quiescent c s) (hseq : c.sequential = false) {l : Nat} (hlim : c.limit = some (l + 1))
    (hlt : s.inflight.length < l + 1) (hni : s.im.sent = false ∧ s.im.recv = false)
    (hf : s.failed = []) {v : Nat} (hv : v < c.n) (hp : ∀ p ∈ parents c.D v, p ∈ s.endedOk) :
    v ∈ s.handedOut ∧ v ∈ s.invoked :=
  idle_below_limit_all_started hc hr hq hseq hlim hlt hni hf hv hp

/-- the same as the monitor evaluates it: `allBlockedB` of the started and ok-ended functions -/
theorem limit_work_conserving_allBlocked {c : Cfg} {s : PState} (hc : GoodCfg c) (hr : Reachable c s)
    (hq : Quiescent c s) (hseq : c.sequential = false) {l : Nat} (hlim : c.limit = some (l + 1))
    (hlt : s.inflight.length < l + 1) (hni : s.im.sent = false ∧ s.im.recv = false)
    (hf : s.failed = []) : allBlockedB c s.invoked s.endedOk = true :=
  work_conserving_allBlockedW hc (reachable_iff_reachableW.mp hr) hq ((underLimit_par_iff hseq hlim).mpr hlt) hni hf

/- non-vacuity: limit 2, `0` and `2` returned, `1` running (`Proofs/ExampleStates.lean`) -/
set_option maxRecDepth 100000 in
example : allBlockedB (exC_G (some 2)) exS2_G.invoked exS2_G.endedOk = true :=
  limit_work_conserving_allBlocked (l := 1) (exC_good_G _) exS2_reach_G (by rw [exS2_eq_G]; decide) rfl rfl
    (by rw [exS2_eq_G]; decide) (by rw [exS2_eq_G]; decide) (by rw [exS2_eq_G])

/-- the model fact behind the "limit 0 means unbounded" note (and the C06 note): `limit = none` or
    `some 0`, not sequential, no interrupt, no failure, quiescent: every function whose predecessors
    have all returned ok has been started -/
theorem unlimited_work_conserving_allBlocked {c : Cfg} {s : PState} (hc : GoodCfg c) (hr : Reachable c s)
    (hq : Quiescent c s) (hseq : c.sequential = false) (hlim : c.limit = none ∨ c.limit = some 0)
    (hni : s.im.sent = false ∧ s.im.recv = false)
    (hf : s.failed = []) : allBlockedB c s.invoked s.endedOk = true :=
  work_conserving_allBlockedW hc (reachable_iff_reachableW.mp hr) hq (underLimit_unlimited hseq hlim) hni hf

/-- limit 0 on the diamond of `Proofs/ExampleStates.lean`: `0` and `1` have returned, `2` is running
    and `3` waits for it -/
def exZ2_Z : PState :=
  exStep_G (some 0) (exStep_G (some 0) (settle (exC_G (some 0)) (init (exC_G (some 0)))) 0 true) 1 true

theorem exZ2_reach_Z : Reachable (exC_G (some 0)) exZ2_Z :=
  exStep_reachable_G (exStep_reachable_G (settleN_reachable _ .init) _ _) _ _

theorem exStep_G_limit_zero (s : PState) (f : Nat) (ok : Bool) :
    exStep_G (some 0) s f ok = exStep_G none s f ok := by
  show settle { exC_G none with limit := some 0 } ((step? { exC_G none with limit := some 0 } s _).getD s) = _
  rw [settle_limit_zero rfl, step?_limit_zero rfl]
  rfl

/-- the state written out: it is the unlimited `exU2_G` -/
theorem exZ2_Z_eq : exZ2_Z =
    { counts := [0, 0, 0, 1], released := [0, 1], qRemaining := 2, sRemaining := 2, handedOut := [0, 2, 1],
      invoked := [0, 2, 1], inflight := [2], endedOk := [0, 1], im := { hp := true } } := by
  rw [← exU2_eq_G, exZ2_Z, exStep_G_limit_zero, exStep_G_limit_zero]
  exact congrArg (fun s => exStep_G none (exStep_G none s 0 true) 1 true)
    (settle_limit_zero (c := exC_G none) rfl _)

/- non-vacuity: the hypotheses hold of that state, and it is the non-trivial one (`2` in flight,
   both children of the root started, `3` blocked) -/
set_option maxRecDepth 100000 in
example : allBlockedB (exC_G (some 0)) exZ2_Z.invoked exZ2_Z.endedOk = true := by
  have hr := exZ2_reach_Z
  rw [exZ2_Z_eq] at hr ⊢
  exact unlimited_work_conserving_allBlocked (exC_good_G _) hr (by decide) rfl (Or.inr rfl) ⟨rfl, rfl⟩ rfl
set_option maxRecDepth 100000 in
example : exZ2_Z.inflight = [2] ∧ exZ2_Z.endedOk = [0, 1] ∧ 3 ∉ exZ2_Z.invoked := by
  rw [exZ2_Z_eq]
  decide

end FG
