/-
  Theorems/CarriedMonitor.lean — the correspondence driver's monitors for sessions that share one
  `InterruptibilityState` between runs: the driver starts the tracking monitor of such a run from
  `{ s := initWith c s0 r0 k0 }` (`im := { sent, recv, cnt }` carried over, `Driver/Main.lean`) and,
  when a signal is pending (`s0 ∨ r0`), seeds the predicate state with
  `{ intrAt := some 0, intrPre := true, intrQuiescent := exact }`, `exact` being "the strategy is
  `FinishCurrent` / `PollNextN(0)`".

  Monitor soundness carries over as it stands (`trackFut_sound` is about an arbitrary `TrackSt`).
  For the predicates the plain statement — every C01, C02, C03, C04, C07, C10 note of `predRun x {}`
  is ok along an `ObsRun` from `initWith …` — is FALSE (`preds_holdW_safety_original_false`): the
  clean-run notes (`Note.isCleanNote`) presuppose that the interrupt machine never saw a signal, and
  `predRun x {}` believes that although one was carried in.  True are: all other notes of the six
  properties from `{}`; all of them when no signal is carried (a poll count may be); all of them,
  whatever is carried, from the driver's seeded predicate state — the seeding is exactly what makes
  the clean-run notes inapplicable; and the C08 notes when a carried signal meets `FinishCurrent` /
  `PollNextN(0)`, where nothing is handed out at all.  All are read off `preds_run`
  (`Proofs/PredCoupling.lean`), the induction that also gives `preds_hold`.
-/
import FnGraphVerif.Theorems.MonitorSound
import FnGraphVerif.Theorems.TracePreds
namespace FG

/-- **Monitor soundness, carried `InterruptibilityState`**: a trace accepted by the tracking
    monitor started at `{ s := initWith x.c s0 r0 k0 }` (non-coop) is a run of the model from
    `initWith …` whose external actions are exactly the observed completions and signals, in order. -/
theorem track_soundW {x : MonCtx} (hcoop : x.coop = false) (s0 r0 : Bool) (k0 : Nat) {evs : List Ev}
    (hok : ∀ n ∈ (trackRun x { s := initWith x.c s0 r0 k0 } evs).2, n.ok = true) :
    ∃ as, run x.c (initWith x.c s0 r0 k0) as = some (trackRun x { s := initWith x.c s0 r0 k0 } evs).1.s ∧
      as.filter Action.isExternal = evs.filterMap Ev.external? :=
  track_sound hcoop hok

/-- the general form: whatever the monitor's start state is reachable from stays so -/
theorem track_reachableFrom {x : MonCtx} (hcoop : x.coop = false) {t : TrackSt} {evs : List Ev} {s₀ : PState}
    (hok : ∀ n ∈ (trackRun x t evs).2, n.ok = true) (hr : ReachableFrom x.c s₀ t.s) :
    ReachableFrom x.c s₀ (trackRun x t evs).1.s := by
  obtain ⟨as, hrun, _⟩ := track_sound hcoop hok
  exact ReachableFrom.of_run hr hrun

/-- the monitor's final state is a state of a run with carried interrupt state -/
theorem track_reachableW {x : MonCtx} (hcoop : x.coop = false) {s0 r0 : Bool} {k0 : Nat} {evs : List Ev}
    (hok : ∀ n ∈ (trackRun x { s := initWith x.c s0 r0 k0 } evs).2, n.ok = true) :
    ReachableW x.c s0 r0 k0 (trackRun x { s := initWith x.c s0 r0 k0 } evs).1.s :=
  track_reachableFrom (t := { s := initWith x.c s0 r0 k0 }) hcoop hok .refl

/-- the driver's form: the monitor state of a fresh monitor with the carried fields written into
    the model state is the monitor started at `initWith` -/
theorem driver_start_eq (c : Cfg) (im0 : IM) :
    ({ ({ s := init c } : TrackSt) with
        s := { ({ s := init c } : TrackSt).s with im := { sent := im0.sent, recv := im0.recv, cnt := im0.cnt } } }
      : TrackSt) = { s := initWith c im0.sent im0.recv im0.cnt } := rfl

theorem track_sound_initW {x : MonCtx} (hcoop : x.coop = false) (s0 r0 : Bool) (k0 : Nat) {evs : List Ev}
    (hok : ∀ n ∈ (trackRun x { s := initWith x.c s0 r0 k0 } evs).2, n.ok = true) :
    ReachableW x.c s0 r0 k0 (trackRun x { s := initWith x.c s0 r0 k0 } evs).1.s ∧
    ∃ as, run x.c (initWith x.c s0 r0 k0) as = some (trackRun x { s := initWith x.c s0 r0 k0 } evs).1.s ∧
      as.filter Action.isExternal = evs.filterMap Ev.external? :=
  ⟨track_reachableW hcoop hok, track_soundW hcoop s0 r0 k0 hok⟩

/-- an accepted `q` in a run with carried state: the model, run to quiescence, has not returned, has
    not panicked, and has invoked exactly the functions the implementation invoked, in order -/
theorem track_qW {x : MonCtx} {t : TrackSt} {s0 r0 : Bool} {k0 : Nat} (hc : GoodCfg x.c)
    (hr : ReachableW x.c s0 r0 k0 t.s) (hok : ∀ n ∈ (trackFut x t .q).2, n.ok = true) :
    Quiescent x.c (trackFut x t .q).1.s ∧ ReachableW x.c s0 r0 k0 (trackFut x t .q).1.s ∧
    (trackFut x t .q).1.s.result = none ∧ (trackFut x t .q).1.s.panic = false ∧
    (trackFut x t .q).1.s.invoked = t.realInvoked :=
  have h := track_q_gen hok
  ⟨settle_quiescentW hc hr, settle_reachableW hr, h.1, h.2.1, h.2.2.1⟩

/- non-vacuity: the running example of `Theorems/MonitorSound.lean` (diamond, limit 2, errors
   collected, `PollNextN(1)`, a `*_control` API) in a session whose shared state still has a signal
   in its channel (`s0`): the first poll receives it (not counted), the root is handed out, the
   second poll interrupts; the call returns `Interrupted` with `[0]` processed. -/
def exTraceW4_V : List Ev := [.handout 0, .invoke 0, .q, .fin 0 true]
def exTraceW_V : List Ev := exTraceW4_V ++ [.retOutcome false [0] [1, 2, 3] [] "break"]

theorem exTraceW4_ok :
    ∀ n ∈ (trackRun exX_P_P_P { s := initWith exX_P_P_P.c true false 0 } exTraceW4_V).2, n.ok = true := by decide
theorem exTraceW4_result :
    (settle exX_P_P_P.c (trackRun exX_P_P_P { s := initWith exX_P_P_P.c true false 0 } exTraceW4_V).1.s).result =
      some (.outcome false [0] [1, 2, 3] []) := by decide

theorem exTraceW_ok_V :
    ∀ n ∈ (trackRun exX_P_P_P { s := initWith exX_P_P_P.c true false 0 } exTraceW_V).2, n.ok = true := by
  rw [exTraceW_V, trackRun_append, trackRun_singleton]
  intro n hn
  rcases List.mem_append.mp hn with hn | hn
  · exact exTraceW4_ok n hn
  · exact trackFut_retOutcome_accepts (x := exX_P_P_P) (errs := []) exTraceW4_result rfl n hn

/-- the theorem applied: the accepted trace is a run from the carried start with the one external
    action `finish 0 ok`, and ends in a `ReachableW` state that has returned -/
example : ∃ as, run exX_P_P_P.c (initWith exX_P_P_P.c true false 0) as =
      some (trackRun exX_P_P_P { s := initWith exX_P_P_P.c true false 0 } exTraceW_V).1.s ∧
    as.filter Action.isExternal = [.finish 0 true] :=
  track_soundW (x := exX_P_P_P) rfl true false 0 exTraceW_ok_V
example : ReachableW exX_P_P_P.c true false 0
    (trackRun exX_P_P_P { s := initWith exX_P_P_P.c true false 0 } exTraceW_V).1.s :=
  track_reachableW (x := exX_P_P_P) rfl exTraceW_ok_V
example : (trackRun exX_P_P_P { s := initWith exX_P_P_P.c true false 0 } exTraceW_V).1.s.result =
    some (.outcome false [0] [1, 2, 3] []) := by
  rw [exTraceW_V, trackRun_append, trackRun_singleton]
  exact exTraceW4_result
set_option maxRecDepth 100000 in
/-- the carried start matters: the monitor started at `init` (no signal) accepts the first four
    events as well, but its model then goes on (hands out `2` and `1`) and does not return -/
example : (∀ n ∈ (trackRun exX_P_P_P { s := init exX_P_P_P.c } exTraceW4_V).2, n.ok = true) ∧
    (settle exX_P_P_P.c (trackRun exX_P_P_P { s := init exX_P_P_P.c } exTraceW4_V).1.s).result = none ∧
    (settle exX_P_P_P.c (trackRun exX_P_P_P { s := init exX_P_P_P.c } exTraceW4_V).1.s).handedOut = [0, 2, 1] := by
  rw [show trackRun exX_P_P_P { s := init exX_P_P_P.c } exTraceW4_V =
    trackRun exX_P_P_P exT0_P_P_P (exTrace12_P_P_P.take 4) from rfl, exAfter4_eq.1]
  exact ⟨exAfter4_eq.2, by decide⟩
set_option maxRecDepth 100000 in
/-- `track_qW` on the third event -/
example : (trackFut exX_P_P_P (trackRun exX_P_P_P { s := initWith exX_P_P_P.c true false 0 } (exTraceW4_V.take 2)).1 .q).1.s.invoked = [0] ∧
    Quiescent exX_P_P_P.c (trackFut exX_P_P_P (trackRun exX_P_P_P { s := initWith exX_P_P_P.c true false 0 } (exTraceW4_V.take 2)).1 .q).1.s :=
  have hr : ReachableW exX_P_P_P.c true false 0
      (trackRun exX_P_P_P { s := initWith exX_P_P_P.c true false 0 } (exTraceW4_V.take 2)).1.s :=
    track_reachableW (x := exX_P_P_P) rfl (by decide)
  have h := track_qW (x := exX_P_P_P) (exC_good_G _) hr (by decide)
  ⟨h.2.2.2.2.trans (by decide), h.1⟩

/-- the general form: any `Fresh` predicate state (lists empty, interrupt fields arbitrary), `K` a
    proposition under which "no signal seen by the predicates" implies "no signal carried in" -/
theorem preds_holdW_gen {x : MonCtx} (hx : GoodCtx x) {s0 r0 : Bool} {k0 : Nat} {K : Prop}
    {evs : List Ev} {s : PState} (h : ObsRun x (initWith x.c s0 r0 k0) evs s)
    {m0 : PredSt} (hm : m0.Fresh) (hclean : K → m0.intrAt = none → s0 = false ∧ r0 = false) :
    ∀ n ∈ (predRun x m0 evs).2, n.ok = true ∨ n.Open (StartsFollowHandouts m0 evs) K False (CarriedSignalStops x.c s0 r0) :=
  preds_run hx h m0 [] (coupled_init x s0 r0 k0 hm hclean fun hf => hf.elim)

/-- **What is true without a side condition**: from `{}`, any carried state: every note of C01, C02,
    C03, C04, C07, C10 is ok, except possibly the clean-run notes (`Note.isCleanNote`). -/
theorem preds_holdW_safety_partial {x : MonCtx} (hx : GoodCtx x) {s0 r0 : Bool} {k0 : Nat}
    {evs : List Ev} {s : PState} (h : ObsRun x (initWith x.c s0 r0 k0) evs s) :
    ∀ n ∈ (predRun x {} evs).2, n.property ∈ safetyProps → n.ok = true ∨ n.isCleanNote :=
  fun n hn hp => (preds_holdW_gen (K := False) hx h PredSt.fresh_empty (fun hf => hf.elim) n hn).imp_right
    fun ho => (ho.safety hp).1

/-- in particular C01, C02, C04, C07 hold of every run from a carried start, whatever the predicate
    state believes about signals -/
theorem preds_holdW_family {x : MonCtx} (hx : GoodCtx x) {s0 r0 : Bool} {k0 : Nat}
    {evs : List Ev} {s : PState} (h : ObsRun x (initWith x.c s0 r0 k0) evs s) (p : String)
    (hp : p ∈ ["C01", "C02", "C04", "C07"]) :
    ∀ n ∈ (predRun x {} evs).2, n.property = p → n.ok = true := by
  intro n hn hnp
  have hmem : n.property ∈ safetyProps := by
    rw [hnp]
    simp only [List.mem_cons, List.not_mem_nil, or_false] at hp
    rcases hp with rfl | rfl | rfl | rfl <;> decide
  refine (preds_holdW_safety_partial hx h n hn hmem).resolve_right fun h1 => ?_
  -- a clean-run note is a C03 or a C10 note
  rcases Note.isCleanNote_property h1 with h2 | h2 <;>
    (rw [hnp] at h2; subst h2; revert hp; decide)

theorem preds_holdW_C01 {x : MonCtx} (hx : GoodCtx x) {s0 r0 : Bool} {k0 : Nat} {evs : List Ev} {s : PState}
    (h : ObsRun x (initWith x.c s0 r0 k0) evs s) :
    ∀ n ∈ (predRun x {} evs).2, n.property = "C01" → n.ok = true :=
  preds_holdW_family hx h "C01" (by decide)
theorem preds_holdW_C02 {x : MonCtx} (hx : GoodCtx x) {s0 r0 : Bool} {k0 : Nat} {evs : List Ev} {s : PState}
    (h : ObsRun x (initWith x.c s0 r0 k0) evs s) :
    ∀ n ∈ (predRun x {} evs).2, n.property = "C02" → n.ok = true :=
  preds_holdW_family hx h "C02" (by decide)
theorem preds_holdW_C04 {x : MonCtx} (hx : GoodCtx x) {s0 r0 : Bool} {k0 : Nat} {evs : List Ev} {s : PState}
    (h : ObsRun x (initWith x.c s0 r0 k0) evs s) :
    ∀ n ∈ (predRun x {} evs).2, n.property = "C04" → n.ok = true :=
  preds_holdW_family hx h "C04" (by decide)
theorem preds_holdW_C07 {x : MonCtx} (hx : GoodCtx x) {s0 r0 : Bool} {k0 : Nat} {evs : List Ev} {s : PState}
    (h : ObsRun x (initWith x.c s0 r0 k0) evs s) :
    ∀ n ∈ (predRun x {} evs).2, n.property = "C07" → n.ok = true :=
  preds_holdW_family hx h "C07" (by decide)

/-- **The safety predicates hold of every run from a carried start** — with the side condition
    `hns` (without it: `preds_holdW_safety_original_false`): no SIGNAL is carried in (`s0 = r0 =
    false`; the carried poll count `k0` is arbitrary).  With a carried signal the predicate state
    must be seeded as the driver does: `preds_holdW_safety_seeded`. -/
theorem preds_holdW_safety {x : MonCtx} (hx : GoodCtx x) {s0 r0 : Bool} {k0 : Nat}
    (hns : s0 = false ∧ r0 = false) {evs : List Ev} {s : PState}
    (h : ObsRun x (initWith x.c s0 r0 k0) evs s) :
    ∀ n ∈ (predRun x {} evs).2, n.property ∈ safetyProps → n.ok = true :=
  fun n hn hp => (preds_holdW_gen (K := True) hx h PredSt.fresh_empty (fun _ _ => hns) n hn).resolve_right
    fun ho => (ho.safety hp).2 trivial

/-- **the safety predicates with a seeded predicate state**: from any `Fresh` predicate state that
    knows about a signal (`intrAt ≠ none` — the driver's `{ intrAt := some 0, intrPre := true,
    intrQuiescent := exact }`), EVERY carried state: every note of C01, C02, C03, C04, C07, C10 is ok. -/
theorem preds_holdW_safety_seeded {x : MonCtx} (hx : GoodCtx x) {s0 r0 : Bool} {k0 : Nat}
    {evs : List Ev} {s : PState} (h : ObsRun x (initWith x.c s0 r0 k0) evs s)
    {m0 : PredSt} (hm : m0.Fresh) (hseed : m0.intrAt ≠ none) :
    ∀ n ∈ (predRun x m0 evs).2, n.property ∈ safetyProps → n.ok = true :=
  fun n hn hp => (preds_holdW_gen (K := True) hx h hm (fun _ hi => absurd hi hseed) n hn).resolve_right
    fun ho => (ho.safety hp).2 trivial

/-- the driver's seeding of a session that begins with a carried signal -/
def seededPredSt : PredSt := { intrAt := some 0, intrPre := true, intrQuiescent := true }

theorem PredSt.fresh_seeded : PredSt.Fresh seededPredSt := ⟨rfl, rfl, rfl, rfl, rfl⟩

/-- the predicate state the driver starts a run of a shared-state session with -/
def driverPredSt (s0 r0 exact : Bool) : PredSt :=
  if s0 || r0 then { intrAt := some 0, intrPre := true, intrQuiescent := exact } else {}

/-- **the safety predicates as the driver evaluates them**: whatever is carried in -/
theorem preds_holdW_safety_driver {x : MonCtx} (hx : GoodCtx x) {s0 r0 : Bool} {k0 : Nat} (exact : Bool)
    {evs : List Ev} {s : PState} (h : ObsRun x (initWith x.c s0 r0 k0) evs s) :
    ∀ n ∈ (predRun x (driverPredSt s0 r0 exact) evs).2, n.property ∈ safetyProps → n.ok = true := by
  unfold driverPredSt
  cases hp : (s0 || r0) with
  | true =>
    simp only [if_true]
    exact preds_holdW_safety_seeded hx h ⟨rfl, rfl, rfl, rfl, rfl⟩ (by simp)
  | false =>
    simp only [Bool.false_eq_true, if_false]
    have hns : s0 = false ∧ r0 = false := by simpa using hp
    exact preds_holdW_safety hx hns h

/-! ### the original statement is false: kernel-checked counterexample

  The diamond `0→1, 0→2, 1→3, 2→3`, `PollNextN(3)`, limit 2, a signal received by an earlier run
  (`r0`, no poll counted yet).  Budget `3 - 1 = 2`: `0` runs and returns, `2` is handed out and
  started, the next poll answers `Interrupted(None)` with `1` ready and not started.  At the
  quiescent point one function is in flight (below the limit 2) and `1` is ready: the
  work-conservation note is false.  The call returns `processed = [0, 2]`: `clean-all` is false. -/

def cxCfg_V : Cfg := { exCfg_F with strat := .pollN 3, limit := some 2 }

theorem cxCarriedSignal_good : GoodCtx (xDiamond cxCfg_V) := xDiamond_good cxCfg_V rfl rfl (by intro h; cases h)

def cxCarriedSignalSchedule : List SchedItem :=
  [.act .schedPoll, .act (.invoke 0), .act .schedPoll, .q, .act (.finish 0 true), .act .queuerRecv,
   .act .schedPoll, .act (.invoke 2), .act .schedPoll, .act .schedPoll, .act .queuerEnd, .q,
   .act (.finish 2 true), .act .schedEnd, .act .ret]

def cxEvents_V : List Ev :=
  [.handout 0, .invoke 0, .q, .fin 0 true, .handout 2, .invoke 2, .q, .fin 2 true,
   .retOutcome false [0, 2] [1, 3] [] "break"]

theorem cxCarriedSignal_obsRun : ∃ s, ObsRun (xDiamond cxCfg_V) (initWith cxCfg_V false true 0) cxEvents_V s :=
  obsRun_of_obsEvents (l := cxCarriedSignalSchedule) (by decide)

/-- exactly two notes fail, one of C10 and one of C03 (the clean-run notes `idle below limit 2` and
    `clean-all`; comparing the properties only keeps the long texts out of the evaluation) -/
theorem cxCarriedSignal_fails :
    ((predRun (xDiamond cxCfg_V) {} cxEvents_V).2.filter (fun n => !n.ok)).map Note.property = ["C10", "C03"] := by
  decide

theorem preds_holdW_safety_original_false :
    ¬ (∀ (x : MonCtx), GoodCtx x → ∀ (s0 r0 : Bool) (k0 : Nat) (evs : List Ev) (s : PState),
        ObsRun x (initWith x.c s0 r0 k0) evs s →
        ∀ n ∈ (predRun x {} evs).2, n.property ∈ ["C01", "C02", "C03", "C04", "C07", "C10"] → n.ok = true) := by
  intro H
  obtain ⟨s, hs⟩ := cxCarriedSignal_obsRun
  exact not_all_ok_of_failing cxCarriedSignal_fails (p := "C03") (by simp) (by decide)
    (H _ cxCarriedSignal_good false true 0 _ s hs)

/-- each of the two properties alone already fails (C10 as well as C03) -/
example : ¬ (∀ n ∈ (predRun (xDiamond cxCfg_V) {} cxEvents_V).2, n.property = "C10" → n.ok = true) :=
  not_all_ok_of_failing (Q := (· = "C10")) cxCarriedSignal_fails (by simp) rfl

/-! ### the `limit = some 0` form of the work-conservation note is a clean-run note as well

  `Model/Monitor.lean` emits, at `q` of a clean non-sequential run with `limit = some 0` (unbounded),
  the C10 note `… limit 0 means unbounded, yet a ready function is unstarted`.  Like `idle below
  limit` it presupposes that the interrupt machine never saw a signal, so `Note.isCleanNote`
  (`Proofs/PredEvents.lean`) lists it as a third clean-run note.  That this is NECESSARY: the same
  counterexample run with `limit := some 0` — from `{}` the note is false (next to the C06 note,
  which is outside `safetyProps`, and `clean-all`). -/

def cxCfg0_Z : Cfg := { exCfg_F with strat := .pollN 3, limit := some 0 }

theorem cx0_obsRun_Z : ∃ s, ObsRun (xDiamond cxCfg0_Z) (initWith cxCfg0_Z false true 0) cxEvents_V s :=
  obsRun_of_obsEvents (l := cxCarriedSignalSchedule) (by decide)

theorem cx0_fails_Z : (predRun (xDiamond cxCfg0_Z) {} cxEvents_V).2.filter (fun n => !n.ok) =
    [.prop "C06" "q" false,
     .prop "C10" "q limit 0 means unbounded, yet a ready function is unstarted" false,
     .prop "C03" "ret state=I processed=0,2 notprocessed=1,3 errs= flow=break clean-all" false] := by
  decide

/-- from `{}` with a carried signal the `limit 0` C10 note can be false … -/
example : ¬ (∀ n ∈ (predRun (xDiamond cxCfg0_Z) {} cxEvents_V).2, n.property = "C10" → n.ok = true) :=
  not_all_ok_of_failing (Q := (· = "C10")) (congrArg (List.map Note.property) cx0_fails_Z)
    (by simp [Note.property]) rfl

/-- … it is a clean-run note, as `preds_holdW_safety_partial` says of every failing safety note … -/
example : (Note.prop "C10" "q limit 0 means unbounded, yet a ready function is unstarted" false).isCleanNote :=
  Or.inr (Or.inr ⟨rfl, "q", rfl⟩)

/-- … and with the driver's seeding all notes of the six properties of this run are ok -/
example : ∀ n ∈ (predRun (xDiamond cxCfg0_Z) (driverPredSt false true false) cxEvents_V).2,
    n.property ∈ safetyProps → n.ok = true := by
  obtain ⟨s, hs⟩ := cx0_obsRun_Z
  exact preds_holdW_safety_driver (xDiamond_good cxCfg0_Z rfl rfl (by intro h; cases h)) false hs

theorem ok_obsRun_V : ∃ s, ObsRun (xDiamond exCfg_F) (initWith exCfg_F false false 5) okEvents_Q s :=
  obsRun_of_obsEvents (l := okSchedule) (by decide)

/-- no signal carried in (`k0 = 5` only), `limit := some 0`, the clean complete run: the `limit 0` note is
    emitted three times and `preds_holdW_safety` covers it -/
theorem ok0_obsRun_Z : ∃ s, ObsRun (xDiamond lim0Cfg_Z) (initWith lim0Cfg_Z false false 5) okEvents_Q s :=
  ok_obsRun_V.imp fun _ h => ObsRun.limit_zero (x := xDiamond exCfg_F) rfl h

example : ∀ n ∈ (predRun (xDiamond lim0Cfg_Z) {} okEvents_Q).2, n.property ∈ safetyProps → n.ok = true := by
  obtain ⟨s, hs⟩ := ok0_obsRun_Z
  exact preds_holdW_safety lim0Cfg_good_Z ⟨rfl, rfl⟩ hs

/-- (1) the same run with the driver's seeding (`PollNextN(3)` is not an `exact` strategy): 27 notes,
    20 of them of the six properties; the theorem says these are ok -/
example : ∀ n ∈ (predRun (xDiamond cxCfg_V) (driverPredSt false true false) cxEvents_V).2,
    n.property ∈ safetyProps → n.ok = true := by
  obtain ⟨s, hs⟩ := cxCarriedSignal_obsRun
  exact preds_holdW_safety_driver cxCarriedSignal_good false hs

set_option maxRecDepth 100000 in
example : (predRun (xDiamond cxCfg_V) (driverPredSt false true false) cxEvents_V).2.length = 27 ∧
    ((predRun (xDiamond cxCfg_V) (driverPredSt false true false) cxEvents_V).2.filter
      (fun n => decide (n.property ∈ safetyProps))).length = 20 := by decide

/-- (2) the partial theorem on the counterexample run: every C01 / C02 / C04 / C07 note is ok -/
example : ∀ n ∈ (predRun (xDiamond cxCfg_V) {} cxEvents_V).2, n.property = "C01" → n.ok = true := by
  obtain ⟨s, hs⟩ := cxCarriedSignal_obsRun
  exact preds_holdW_C01 cxCarriedSignal_good hs

/-- (3) only a poll count is carried (`k0 = 5`, no signal): the clean complete run of the diamond
    with its three `q` observations (`Theorems/TracePreds.lean`) from the carried start -/
example : ∀ n ∈ (predRun (xDiamond exCfg_F) {} okEvents_Q).2, n.property ∈ safetyProps → n.ok = true := by
  obtain ⟨s, hs⟩ := ok_obsRun_V
  exact preds_holdW_safety xDiamond_exCfg_good ⟨rfl, rfl⟩ hs

/-- (4) the failure run of the diamond (`Theorems/TracePreds.lean`, run (5): `2` fails after `0`
    and `2` were started) from a carried start (`k0 = 5`, no signal): the C07 note at the failure
    ("nothing ordered after the failing function was started before") is emitted with the non-empty
    list `[0, 2]` of started functions and `preds_holdW_C07` applies to it -/
theorem fail_obsRun_V : ∃ s, ObsRun (xDiamond failCfg_U) (initWith failCfg_U false false 5) failEvents_U s :=
  obsRun_of_obsEvents (l := failSchedule) (by decide)

example : ∀ n ∈ (predRun (xDiamond failCfg_U) {} failEvents_U).2, n.property = "C07" → n.ok = true := by
  obtain ⟨s, hs⟩ := fail_obsRun_V
  exact preds_holdW_C07 failCfg_good_U hs

set_option maxRecDepth 100000 in
example : (Note.prop "C07" "end 2 err (a function ordered after it was started before)" true) ∈
    (predRun (xDiamond failCfg_U) {} failEvents_U).2 := by
  rw [show failEvents_U = failEvents_U.take 7 ++ (.fin 2 false :: failEvents_U.drop 8) from rfl,
    predRun_append]
  exact List.mem_append_right _ (List.mem_append_left _ (failRun_C07_note ▸ List.mem_singleton_self _))

/-- **C08, carried signal, `FinishCurrent` / `PollNextN(0)`**: nothing is handed out at all, so no
    function is started; every C08 note (start bound, "never returns after the interrupt",
    started-all-reported, noop) holds — from the driver's seeded predicate state and in fact from any
    `Fresh` one. -/
theorem preds_holdW_C08 {x : MonCtx} (hx : GoodCtx x) {s0 r0 : Bool} {k0 : Nat}
    (hst : x.c.strat = .finish ∨ x.c.strat = .pollN 0) (h0 : r0 = true ∨ s0 = true)
    {evs : List Ev} {s : PState} (h : ObsRun x (initWith x.c s0 r0 k0) evs s)
    {m0 : PredSt} (hm : m0.Fresh) :
    ∀ n ∈ (predRun x m0 evs).2, n.property = "C08" → n.ok = true :=
  fun n hn hp => (preds_holdW_gen (K := False) hx h hm (fun hf => hf.elim) n hn).resolve_right
    fun ho => ho.not_c08 ⟨hst, h0⟩ hp

/-- the driver's form: `{ intrAt := some 0, intrPre := true, intrQuiescent := true }`, together with
    the six safety properties -/
theorem preds_holdW_driver_exact {x : MonCtx} (hx : GoodCtx x) {s0 r0 : Bool} {k0 : Nat}
    (hst : x.c.strat = .finish ∨ x.c.strat = .pollN 0) (h0 : r0 = true ∨ s0 = true)
    {evs : List Ev} {s : PState} (h : ObsRun x (initWith x.c s0 r0 k0) evs s) :
    ∀ n ∈ (predRun x seededPredSt evs).2,
      (n.property ∈ safetyProps ∨ n.property = "C08") → n.ok = true := by
  intro n hn hp
  rcases hp with hp | hp
  · exact preds_holdW_safety_seeded hx h PredSt.fresh_seeded (by simp [seededPredSt]) n hn hp
  · exact preds_holdW_C08 hx hst h0 h PredSt.fresh_seeded n hn hp

theorem carried_no_inflight {c : Cfg} {s0 r0 : Bool} {k0 : Nat} {s : PState} (hc : GoodCfg c)
    (hst : c.strat = .finish ∨ c.strat = .pollN 0) (h0 : r0 = true ∨ s0 = true)
    (hr : ReachableW c s0 r0 k0 s) : s.inflight = [] := by
  apply List.eq_nil_iff_forall_not_mem.mpr
  intro f hf
  have := (inv0_reachableW hc hr).inflHanded f hf
  rw [(carried_finish_nothing hst h0 hr).1] at this
  cases this

/-- a carried signal under `FinishCurrent` / `PollNextN(0)`: the whole run shows no `handout`, no
    `invoke`, no completion and no `q` (what is left are `intr` events and a return, which
    `carried_finish_outcome` shows to be an outcome with nothing processed) -/
theorem carried_finish_no_invoke {x : MonCtx} {s0 r0 : Bool} {k0 : Nat} (hc : GoodCfg x.c)
    (hst : x.c.strat = .finish ∨ x.c.strat = .pollN 0) (h0 : r0 = true ∨ s0 = true)
    {evs : List Ev} {s s' : PState} (hr : ReachableW x.c s0 r0 k0 s) (h : ObsRun x s evs s') :
    ∀ e ∈ evs, (∀ f, e ≠ .handout f) ∧ (∀ f, e ≠ .invoke f) ∧ (∀ f ok, e ≠ .fin f ok) ∧ e ≠ .q := by
  induction h with
  | nil s => intro e he; cases he
  | @step s s1 s' evs a hs _ _ ih =>
    intro e he
    have hr1 : ReachableW x.c s0 r0 k0 s1 := ReachableFrom.step a hr hs
    rcases List.mem_append.mp he with he | he
    · have hho := (carried_finish_nothing hst h0 hr).1
      have hho1 := (carried_finish_nothing hst h0 hr1).1
      have hinf := carried_no_inflight hc hst h0 hr
      cases a with
      | schedPoll =>
        rw [stepEvents_poll_same x.control (hho1.trans hho.symm)] at he
        cases he
      | invoke f =>
        exfalso
        obtain ⟨hf1, _, _⟩ := step_invoke_iff.mp hs
        rw [hinf] at hf1
        cases hf1
      | finish f ok =>
        exfalso
        obtain ⟨⟨hf1, _, _⟩, _⟩ := step_finish_iff.mp hs
        rw [hinf] at hf1
        cases hf1
      | interrupt =>
        rw [List.mem_singleton.mp he]
        exact ⟨nofun, nofun, nofun, nofun⟩
      | ret =>
        rcases stepEvents_ret_cases x.c x.control s s1 with h | ⟨f, h⟩ | ⟨fnd, p, np, errs, fl, h⟩ <;>
          rw [h] at he
        · cases he
        · rw [List.mem_singleton.mp he]; exact ⟨nofun, nofun, nofun, nofun⟩
        · rw [List.mem_singleton.mp he]; exact ⟨nofun, nofun, nofun, nofun⟩
      | queuerRecv => cases he
      | queuerEnd => cases he
      | schedEnd => cases he
    · exact ih hr1 e he
  | @q s s' evs hq hres _ ih =>
    -- a `q` cannot be shown: quiescent with nothing in flight means the call has returned
    exfalso
    have := deadlock_freeW hc hr hq (carried_no_inflight hc hst h0 hr)
    rw [hres] at this
    cases this

/- non-vacuity: `FinishCurrent` on the diamond, a signal received by an earlier run: the call polls
   once (`Interrupted(None)`), ends the stream, the scheduler, the queuer and returns `Interrupted`
   with nothing processed; from `{}` the `clean-all` note is false, with the driver's seeding every
   note of the six properties and of C08 is ok -/
def finCfg_V : Cfg := { exCfg_F with strat := .finish }

theorem fin_obsRun_V : ∃ s, ObsRun (xDiamond finCfg_V) (initWith finCfg_V false true 1)
    [.retOutcome false [] [0, 1, 2, 3] [] "break"] s :=
  obsRun_of_obsEvents (l := [.act .schedPoll, .act .schedPoll, .act .schedEnd, .act .queuerEnd, .act .ret])
    (by decide)

example : ∀ n ∈ (predRun (xDiamond finCfg_V) seededPredSt [.retOutcome false [] [0, 1, 2, 3] [] "break"]).2,
    (n.property ∈ safetyProps ∨ n.property = "C08") → n.ok = true := by
  obtain ⟨s, hs⟩ := fin_obsRun_V
  exact preds_holdW_driver_exact (xDiamond_good finCfg_V rfl rfl (by intro h; cases h)) (Or.inl rfl)
    (Or.inl rfl) hs

set_option maxRecDepth 100000 in
example : ((predRun (xDiamond finCfg_V) seededPredSt [.retOutcome false [] [0, 1, 2, 3] [] "break"]).2.filter
      (fun n => n.property == "C08")).length = 1 ∧
    ((predRun (xDiamond finCfg_V) {} [.retOutcome false [] [0, 1, 2, 3] [] "break"]).2.filter
      (fun n => !n.ok)).map Note.property = ["C03"] := by decide

end FG
