/-
  Theorems/StreamMonitorComplete.lean — completeness of the stream monitor: `trackStream` raises no
  false alarm on runs of the stream model, and for well-formed traces accepted ⇔ the stream events are
  the event list of a model run.  Model run ⇒ accepted needs `GoodCfg` (exactly: no poll of a
  reachable undropped state panics), not well-formedness; accepted ⇒ model run needs well-formedness
  (the notes do not check that a dropped `FnRef` is live), not `GoodCfg`.
-/
import FnGraphVerif.Theorems.StreamMonitor
namespace FG

theorem noPanic_of_goodCfg {c : Cfg} (hg : GoodCfg c) :
    ∀ t, SReachable c true t → t.streamDropped = false → (sipoll c true t).1.panic = false :=
  fun _ hr hsd => stream_no_panic hg (.step .poll hr (sstep_poll_iff.mpr ⟨hsd, rfl⟩))

theorem strack_complete_reachable {x : MonCtx} (hcoop : x.coop = false) (hg : GoodCfg x.c)
    {s s' : SState} {evs : List Ev} (hr : SReachable x.c true s) (h : SObsRun x s evs s') :
    (∀ n ∈ (strackRun x { ss := s } evs).2, n.ok = true) ∧ (strackRun x { ss := s } evs).1.ss = s' :=
  strack_complete_of_noPanic hcoop (noPanic_of_goodCfg hg) hr h

/-- **Completeness of the stream monitor**: every run of the stream model, shown as the events
    `sStepEvents` gives, is accepted by `trackStream` (non-coop), and the monitor ends in the same
    model state.  `hg : GoodCfg x.c` (the configuration is one `build` produces) is needed: without
    it the MODEL panics and the monitor's `panic` comparison fails (`strack_complete_original_false`). -/
theorem strack_complete {x : MonCtx} (hcoop : x.coop = false) (hg : GoodCfg x.c) {evs : List Ev} {s : SState}
    (h : SObsRun x (sinit x.c) evs s) :
    (∀ n ∈ (strackRun x { ss := sinit x.c } evs).2, n.ok = true) ∧
    (strackRun x { ss := sinit x.c } evs).1.ss = s :=
  strack_complete_reachable hcoop hg .init h

/-- the chain `0 → 1` with wrong initial counts (`1` is preloaded although it has a predecessor) -/
def exBadCfg_V : Cfg := { D := ⟨2, [⟨0, 1, .logic⟩]⟩, counts0 := [0, 0] }

def exBadCtx_V : MonCtx :=
  { c := exBadCfg_V, decls := [], userD := exBadCfg_V.D, rev := false, control := false,
    interruptible := false, coop := false }

example : sObsEvents exBadCfg_V (sinit exBadCfg_V) [.poll, .drop 0, .poll] =
    [.poll (.some 0), .drop 0 true, .poll (.some 1)] := by decide

/-- the model panics in the second poll (a zero count is decremented), so the monitor's `panic`
    comparison of that poll fails: the last of the five notes -/
example : (strackRun exBadCtx_V { ss := sinit exBadCfg_V }
    [.poll (.some 0), .drop 0 true, .poll (.some 1)]).2.map Note.ok = [true, true, true, true, false] := by
  decide

/-- **the statement without `GoodCfg` is false** -/
theorem strack_complete_original_false :
    ¬ (∀ (x : MonCtx), x.coop = false → ∀ (evs : List Ev) (s : SState), SObsRun x (sinit x.c) evs s →
        (∀ n ∈ (strackRun x { ss := sinit x.c } evs).2, n.ok = true) ∧
        (strackRun x { ss := sinit x.c } evs).1.ss = s) := by
  intro H
  obtain ⟨s', hrun⟩ := sobsRun_of_isSome exBadCtx_V (s := sinit exBadCtx_V.c) (as := [.poll, .drop 0, .poll])
    (by decide)
  have hall := List.all_eq_true.mpr (H exBadCtx_V rfl _ _ hrun).1
  have hfalse : ((strackRun exBadCtx_V { ss := sinit exBadCtx_V.c }
      (sObsEvents exBadCtx_V.c (sinit exBadCtx_V.c) [.poll, .drop 0, .poll])).2.all Note.ok) = false := by decide
  rw [hfalse] at hall
  cases hall

/-- its counts are not the in-degrees -/
example : ¬ GoodCfg exBadCfg_V := fun h => absurd (h.counts 1) (by decide)

/-- **the side condition, exactly**: what completeness needs of `GoodCfg` is that no poll of a
    reachable undropped state of the stream model panics, and that is also necessary -/
theorem strack_complete_iff_noPanic {x : MonCtx} (hcoop : x.coop = false) :
    (∀ (evs : List Ev) (s : SState), SObsRun x (sinit x.c) evs s →
        ∀ n ∈ (strackRun x { ss := sinit x.c } evs).2, n.ok = true) ↔
    (∀ t, SReachable x.c true t → t.streamDropped = false → (sipoll x.c true t).1.panic = false) := by
  constructor
  · intro H t hr hsd
    obtain ⟨evs, hrun⟩ := sreachable_obsRun x hr
    have hstep : sstep? x.c true t .poll = some (sipoll x.c true t).1 := sstep_poll_iff.mpr ⟨hsd, rfl⟩
    obtain ⟨e, he, _, ht⟩ := trackStream_of_step hstep
    have hall := H _ _ (hrun.snoc hstep)
    rw [he, strackRun_append, strackRun_cons] at hall
    have hst : (strackRun x { ss := sinit x.c } evs).1 = { ss := t } :=
      congrArg STrackSt.mk (strack_follows hcoop hrun)
    rw [hst] at hall
    exact (ht hcoop).2.mp (fun n hn => hall n (List.mem_append_right _ (List.mem_append_left _ hn))) rfl
  · intro hnp evs s h
    exact (strack_complete_of_noPanic hcoop hnp .init h).1

theorem exObsRun_V : ∃ s, SObsRun exCtx_R_R_R (sinit exCtx_R_R_R.c) exEvs_R_R_R s ∧ s.yielded = [0, 2, 1, 3] :=
  exActs_obsRun

example : (∀ n ∈ (strackRun exCtx_R_R_R { ss := sinit exCtx_R_R_R.c } exEvs_R_R_R).2, n.ok = true) ∧
    (strackRun exCtx_R_R_R { ss := sinit exCtx_R_R_R.c } exEvs_R_R_R).2.length = 14 ∧
    (strackRun exCtx_R_R_R { ss := sinit exCtx_R_R_R.c } exEvs_R_R_R).1.ss.yielded = [0, 2, 1, 3] := by
  obtain ⟨s, hrun, hy⟩ := exObsRun_V
  obtain ⟨h1, h2⟩ := strack_complete (x := exCtx_R_R_R) rfl exDiamond_good_I hrun
  exact ⟨h1, by decide, by rw [h2]; exact hy⟩

/-- the interruptible diamond (`FinishCurrent`): park, signal, drop, `Interrupted(Some 2)`, `None` -/
example : ∀ n ∈ (strackRun exCtxI_R_R_R { ss := sinit exCtxI_R_R_R.c }
    (sObsEvents exCtxI_R_R_R.c (sinit exCtxI_R_R_R.c)
      [.poll, .poll, .interrupt, .drop 0, .poll, .poll, .drop 2])).2, n.ok = true := by
  obtain ⟨s', hrun'⟩ := sobsRun_of_isSome exCtxI_R_R_R (s := sinit exCtxI_R_R_R.c) (as := [.poll, .poll, .interrupt, .drop 0, .poll, .poll, .drop 2])
    (by decide)
  exact (strack_complete (x := exCtxI_R_R_R) rfl exCtxI_good_R_R_R.good
    hrun').1

theorem sobsRun_isStream {x : MonCtx} {s s' : SState} {evs : List Ev} (h : SObsRun x s evs s') :
    ∀ e ∈ evs, e.isStream = true := by
  induction h with
  | nil s => intro e he; cases he
  | @step s s1 s' evs a hstep rest ih =>
    intro e he
    rcases List.mem_append.mp he with he | he
    · cases a <;> (simp only [sStepEvents, List.mem_singleton] at he; subst he; rfl)
    · exact ih e he

theorem strack_events {x : MonCtx} (hcoop : x.coop = false) {evs : List Ev}
    (hwf : wfStreamTrace evs = true)
    (hok : ∀ n ∈ (strackRun x { ss := sinit x.c } evs).2, n.ok = true) :
    SObsRun x (sinit x.c) (evs.filter Ev.isStream) (strackRun x { ss := sinit x.c } evs).1.ss :=
  strack_events_from (x := x) (t := { ss := sinit x.c }) hcoop hwf hok

/-- a well-formed trace is accepted by `trackStream` (non-coop, `GoodCfg`) iff its stream events are
    the event list of a run of the stream model; the run then ends in the monitor's final state
    (`strack_iff_state`).  ⇒ is `strack_events` (uses `hwf`, not `hg`); ⇐ is `strack_complete` (uses
    `hg`, not `hwf`). -/
theorem strack_iff {x : MonCtx} (hcoop : x.coop = false) (hg : GoodCfg x.c) {evs : List Ev}
    (hwf : wfStreamTrace evs = true) :
    (∀ n ∈ (strackRun x { ss := sinit x.c } evs).2, n.ok = true) ↔
      ∃ s, SObsRun x (sinit x.c) (evs.filter Ev.isStream) s := by
  constructor
  · intro hok
    exact ⟨_, strack_events hcoop hwf hok⟩
  · rintro ⟨s, hrun⟩
    have := (strack_complete hcoop hg hrun).1
    rw [strackRun_filter] at this
    exact this

/-- the run of `strack_iff` is unique: it ends in the monitor's final state -/
theorem strack_iff_state {x : MonCtx} (hcoop : x.coop = false) (hg : GoodCfg x.c) {evs : List Ev} {s : SState}
    (hrun : SObsRun x (sinit x.c) (evs.filter Ev.isStream) s) :
    (strackRun x { ss := sinit x.c } evs).1.ss = s := by
  have := (strack_complete hcoop hg hrun).2
  rw [strackRun_filter] at this
  exact this

/-- well-formedness can stand on the left: every model run shows a well-formed trace -/
theorem strack_iff_wf {x : MonCtx} (hcoop : x.coop = false) (hg : GoodCfg x.c) {evs : List Ev} :
    (wfStreamTrace evs = true ∧ ∀ n ∈ (strackRun x { ss := sinit x.c } evs).2, n.ok = true) ↔
      ∃ s, SObsRun x (sinit x.c) (evs.filter Ev.isStream) s := by
  constructor
  · rintro ⟨hwf, hok⟩
    exact (strack_iff hcoop hg hwf).mp hok
  · rintro ⟨s, hrun⟩
    have hwf : wfStreamTrace evs = true := by
      have := sobsRun_wf hrun
      unfold wfStreamTrace
      rw [← wfStreamFrom_filter]
      exact this
    exact ⟨hwf, (strack_iff hcoop hg hwf).mpr ⟨s, hrun⟩⟩

theorem strack_iff_stream {x : MonCtx} (hcoop : x.coop = false) (hg : GoodCfg x.c) {evs : List Ev}
    (hev : ∀ e ∈ evs, e.isStream = true) :
    (wfStreamTrace evs = true ∧ ∀ n ∈ (strackRun x { ss := sinit x.c } evs).2, n.ok = true) ↔
      ∃ s, SObsRun x (sinit x.c) evs s := by
  have := strack_iff_wf hcoop hg (evs := evs)
  rwa [List.filter_eq_self.mpr hev] at this

example : (wfStreamTrace exEvs_R_R_R = true ∧
      ∀ n ∈ (strackRun exCtx_R_R_R { ss := sinit exCtx_R_R_R.c } exEvs_R_R_R).2, n.ok = true) ↔
    ∃ s, SObsRun exCtx_R_R_R (sinit exCtx_R_R_R.c) exEvs_R_R_R s :=
  strack_iff_stream (x := exCtx_R_R_R) rfl exDiamond_good_I (by decide)

example : ∃ s, SObsRun exCtx_R_R_R (sinit exCtx_R_R_R.c) exEvs_R_R_R s :=
  (strack_iff_stream (x := exCtx_R_R_R) rfl exDiamond_good_I (by decide)).mp
    ⟨by decide, exEvs_accepted⟩

/-- a wrong wake flag (`drop 0 false` for `drop 0 true`): rejected, hence not the event list of any
    run of the model -/
example : ¬ ∃ s, SObsRun exCtx_R_R_R (sinit exCtx_R_R_R.c)
    [.poll (.some 0), .poll (.pending false), .drop 0 false] s := by
  intro h
  have := ((strack_iff_stream (x := exCtx_R_R_R) rfl exDiamond_good_I (by decide)).mpr h).2
  have hall := List.all_eq_true.mpr this
  revert hall
  decide

/-- events that denote no stream action do not matter -/
example : ∀ n ∈ (strackRun exCtx_R_R_R { ss := sinit exCtx_R_R_R.c }
    (.q :: .other :: exEvs_R_R_R ++ [.panic])).2, n.ok = true := by
  obtain ⟨s, hrun, _⟩ := exObsRun_V
  refine (strack_iff (x := exCtx_R_R_R) rfl exDiamond_good_I (by decide)).mpr ⟨s, ?_⟩
  have : (Ev.q :: Ev.other :: exEvs_R_R_R ++ [Ev.panic]).filter Ev.isStream = exEvs_R_R_R := by decide
  rw [this]
  exact hrun

end FG
