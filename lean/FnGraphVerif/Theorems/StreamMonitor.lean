/-
  Theorems/StreamMonitor.lean — the stream side of the two statements that tie the correspondence
  driver's monitors (`Model/Monitor.lean`) to the model: an accepted well-formed trace is a run of the
  stream model (`strack_sound`), and every run of the stream model satisfies the predicates
  `predStream` evaluates (`spreds_hold`: stream forms of C01 / C02 / C03 / C05 / C06 / C08), but for
  one note under one condition (`spreds_run_open`, `spreds_hold_original_false`).
-/
import FnGraphVerif.Proofs.StreamTrack
import FnGraphVerif.Proofs.StreamPredCoupling
namespace FG

/-- **Monitor soundness, streams** (general start state): in a non-coop session, if the trace is
    well-formed relative to the monitor's start state (every dropped `f` is live — it was live at the
    start or yielded by a poll of the trace — and was not dropped since; no poll after the stream was
    dropped; `aborted` at most once) and every note of `trackStream` is an agreement, then the actions
    the events denote (`Ev.saction?`) are enabled in sequence from the start state and lead to the
    monitor's final model state. -/
theorem strack_sound {x : MonCtx} {t : STrackSt} {evs : List Ev} (hcoop : x.coop = false)
    (hwf : wfStreamFrom t.ss.live t.ss.streamDropped evs = true)
    (hok : ∀ n ∈ (strackRun x t evs).2, n.ok = true) :
    ∃ as : List SAction, srun x.c true t.ss as = some (strackRun x t evs).1.ss ∧
      as = evs.filterMap Ev.saction? :=
  ⟨_, strack_sound_from hcoop hwf hok, rfl⟩

/-- the same from the initial state, with the decidable predicate `wfStreamTrace evs` on the trace
    alone; the monitor's final model state is a reachable state of the stream model -/
theorem strack_sound_init {x : MonCtx} {evs : List Ev} (hcoop : x.coop = false)
    (hwf : wfStreamTrace evs = true)
    (hok : ∀ n ∈ (strackRun x { ss := sinit x.c } evs).2, n.ok = true) :
    ∃ as : List SAction, srun x.c true (sinit x.c) as = some (strackRun x { ss := sinit x.c } evs).1.ss ∧
      as = evs.filterMap Ev.saction? ∧
      SReachable x.c true (strackRun x { ss := sinit x.c } evs).1.ss := by
  have h := strack_sound_from (x := x) (t := { ss := sinit x.c }) hcoop hwf hok
  exact ⟨_, h, rfl, sreachable_srun SReachable.init h⟩

/-- the form with `wfStreamTrace evs`: enough whenever the monitor starts with no live `FnRef` and an
    undropped stream (for another start state `wfStreamTrace` says nothing about the refs that are
    already live / about a stream that is already dropped: use `strack_sound`) -/
theorem strack_sound_of_wfTrace {x : MonCtx} {t : STrackSt} {evs : List Ev} (hcoop : x.coop = false)
    (hl : t.ss.live = []) (hd : t.ss.streamDropped = false) (hwf : wfStreamTrace evs = true)
    (hok : ∀ n ∈ (strackRun x t evs).2, n.ok = true) :
    ∃ as : List SAction, srun x.c true t.ss as = some (strackRun x t evs).1.ss ∧
      as = evs.filterMap Ev.saction? :=
  strack_sound hcoop (by rw [hl, hd]; exact hwf) hok

/-- the diamond with a real conflict (0 writes / 3 reads resource 7); the trace `exEvs_R_R_R` on it:
    polls answering `Some` / `Pending`, drops with and without wake-up, a signal, an early drop of
    the stream, a drop after it -/
def exCtx_R_R_R : MonCtx :=
  { c := exDiamond_I, decls := [⟨[], [7], 0⟩, ⟨[], [], 1⟩, ⟨[], [], 2⟩, ⟨[7], [], 3⟩], userD := exDiamond_I.D,
    rev := false, control := false, interruptible := false, coop := false }

def exEvs_R_R_R : List Ev :=
  [.poll (.some 0), .poll (.pending false), .drop 0 true, .poll (.some 2), .poll (.some 1), .drop 2 true,
   .intr, .drop 1 false, .poll (.some 3), .aborted, .drop 3 false]

/-- evaluated once, for the examples here and in `StreamMonitorComplete` -/
theorem exEvs_accepted : ∀ n ∈ (strackRun exCtx_R_R_R { ss := sinit exCtx_R_R_R.c } exEvs_R_R_R).2, n.ok = true :=
  List.all_eq_true.mp (by decide)

example : ∃ as : List SAction,
    srun exCtx_R_R_R.c true (sinit exCtx_R_R_R.c) as = some (strackRun exCtx_R_R_R { ss := sinit exCtx_R_R_R.c } exEvs_R_R_R).1.ss ∧
    as = [.poll, .poll, .drop 0, .poll, .poll, .drop 2, .interrupt, .drop 1, .poll, .dropStream, .drop 3] ∧
    SReachable exCtx_R_R_R.c true (strackRun exCtx_R_R_R { ss := sinit exCtx_R_R_R.c } exEvs_R_R_R).1.ss ∧
    (strackRun exCtx_R_R_R { ss := sinit exCtx_R_R_R.c } exEvs_R_R_R).1.ss.yielded = [0, 2, 1, 3] := by
  obtain ⟨as, h1, h2, h3⟩ := strack_sound_init (x := exCtx_R_R_R) (evs := exEvs_R_R_R) rfl (by decide) exEvs_accepted
  exact ⟨as, h1, h2, h3, by decide⟩

/-- the well-formedness hypothesis is needed: the notes only compare the wake flag of a drop, so the
    drop of a function that was never yielded is accepted, but it is not an enabled model action -/
example : (∀ n ∈ (strackRun exCtx_R_R_R { ss := sinit exCtx_R_R_R.c } [.drop 2 false]).2, n.ok = true) ∧
    wfStreamTrace [.drop 2 false] = false ∧
    srun exCtx_R_R_R.c true (sinit exCtx_R_R_R.c) ([Ev.drop 2 false].filterMap Ev.saction?) = none := by
  refine ⟨List.all_eq_true.mp (by decide), by decide, by decide⟩

/-- the side condition: a context that is not `interruptible` runs a transparent strategy or sees
    no signal -/
def SPlainRun (x : MonCtx) (m : SPredSt) (evs : List Ev) : Prop :=
  x.interruptible = false →
    (x.c.strat = .non ∨ x.c.strat = .ignore) ∨ (m.yieldedAtIntr = none ∧ Ev.intr ∉ evs)

theorem SPlainRun.head {x : MonCtx} {m : SPredSt} {e : Ev} {evs : List Ev}
    (h : SPlainRun x m (e :: evs)) : SPlain x m :=
  fun hi => (h hi).imp id And.left

theorem SPlainRun.tail {x : MonCtx} {m : SPredSt} {e : Ev} {evs : List Ev}
    (h : SPlainRun x m (e :: evs)) : SPlainRun x (predStream x false m e).1 evs :=
  fun hi => (h hi).imp id fun h =>
    ⟨(predStream_keeps x m fun he => h.2 (he ▸ List.mem_cons_self ..)).1.trans h.1,
     fun hm => h.2 (List.mem_cons_of_mem _ hm)⟩

/-- **every note of every model run is ok, or it is `C05 none-iff-all` and the side condition
    fails**: from any coupled pair of a model state and a monitor state -/
theorem spreds_run_open {x : MonCtx} (hx : GoodCtx x) {s s' : SState} {evs : List Ev} (h : SObsRun x s evs s') :
    ∀ m : SPredSt, SCpl x s m → ∀ n ∈ (spredRun x m evs).2, n.ok = true ∨ n.SOpen (SPlainRun x m evs) := by
  induction h with
  | nil s => intro m _ n hn; cases hn
  | @step s s1 s' evs a hstep rest ih =>
    intro m hc n hn
    obtain ⟨e, he, hc1, hok⟩ := scpl_step hx hc hstep
    rw [he, List.singleton_append] at hn ⊢
    rw [spredRun_cons] at hn
    rcases List.mem_append.mp hn with hn | hn
    · exact (hok n hn).imp_right (.mono SPlainRun.head)
    · exact (ih _ hc1 n hn).imp_right (.mono SPlainRun.tail)

/-- **The stream predicates hold of every model run** — under the side condition `hplain`: a
    context that is not `interruptible` (a plain `stream` / `stream_with`) runs a transparent strategy
    or sees no interrupt signal.  The model polls EVERY stream through the `InterruptibleStream`
    wrapper with strategy `c.strat`, while `predStream` takes a context with `interruptible = false`
    for a plain stream: under an interrupting strategy and a signal the model answers
    `Interrupted(None)`, then `None` before everything was yielded, and `C05 none-iff-all` fails
    (`spreds_hold_original_false`). -/
theorem spreds_hold {x : MonCtx} (hx : GoodCtx x) {evs : List Ev} {s : SState}
    (hplain : x.interruptible = false → x.c.strat = .non ∨ x.c.strat = .ignore ∨ Ev.intr ∉ evs)
    (h : SObsRun x (sinit x.c) evs s) : ∀ n ∈ (spredRun x {} evs).2, n.ok = true := by
  intro n hn
  refine (spreds_run_open hx h {} (scpl_init x) n hn).resolve_right fun ho => ho.2 fun hi => ?_
  rcases hplain hi with h1 | h1 | h1
  · exact Or.inl (Or.inl h1)
  · exact Or.inl (Or.inr h1)
  · exact Or.inr ⟨rfl, h1⟩

/-- for `interruptible` contexts there is no side condition at all -/
theorem spreds_hold_interruptible {x : MonCtx} (hx : GoodCtx x) (hi : x.interruptible = true)
    {evs : List Ev} {s : SState} (h : SObsRun x (sinit x.c) evs s) :
    ∀ n ∈ (spredRun x {} evs).2, n.ok = true :=
  spreds_hold hx (fun h0 => by rw [hi] at h0; cases h0) h

/-- one function, `FinishCurrent`, but the context says "plain stream" -/
def exBad_R_R_R : MonCtx :=
  { c := { D := ⟨1, []⟩, counts0 := [0], strat := .finish }, decls := [], userD := ⟨1, []⟩, rev := false,
    control := false, interruptible := false, coop := false }

theorem exBad_good_R_R_R : GoodCtx exBad_R_R_R :=
  goodCtx_of_noDecls (goodCfg_of_check (by decide)) rfl rfl rfl rfl

/-- **the statement without the side condition is false**: signal, poll (`Interrupted(None)`), poll (`None`) on the
    one-function graph: `None` although nothing was yielded — `C05 none-iff-all` fails, because the
    context is not `interruptible` while the model applies `FinishCurrent`. -/
theorem spreds_hold_original_false :
    ¬ (∀ (x : MonCtx), GoodCtx x → ∀ (evs : List Ev) (s : SState), SObsRun x (sinit x.c) evs s →
        ∀ n ∈ (spredRun x {} evs).2, n.ok = true) := by
  intro H
  obtain ⟨s', hrun⟩ := sobsRun_of_isSome exBad_R_R_R (s := sinit exBad_R_R_R.c) (as := [.interrupt, .poll, .poll])
    (by decide)
  have hall := List.all_eq_true.mpr (H exBad_R_R_R exBad_good_R_R_R _ _ hrun)
  have hfalse : ((spredRun exBad_R_R_R {}
      (sObsEvents exBad_R_R_R.c (sinit exBad_R_R_R.c) [.interrupt, .poll, .poll])).2.all Note.ok) = false := by decide
  rw [hfalse] at hall
  cases hall

example : sObsEvents exBad_R_R_R.c (sinit exBad_R_R_R.c) [.interrupt, .poll, .poll] =
    [.intr, .poll .inone, .poll .none] := by decide
example : (spredRun exBad_R_R_R {} [.intr, .poll .inone, .poll .none]).2.map Note.ok = [false] := by decide

/-- the same run in an `interruptible` context satisfies every predicate -/
example : ∀ n ∈ (spredRun { exBad_R_R_R with interruptible := true } {}
    (sObsEvents exBad_R_R_R.c (sinit exBad_R_R_R.c) [.interrupt, .poll, .poll])).2, n.ok = true := by
  obtain ⟨s', hrun'⟩ := sobsRun_of_isSome ({ exBad_R_R_R with interruptible := true }) (s := sinit exBad_R_R_R.c) (as := [.interrupt, .poll, .poll])
    (by decide)
  exact spreds_hold_interruptible (x := { exBad_R_R_R with interruptible := true })
    (goodCtx_of_noDecls exBad_good_R_R_R.good rfl rfl rfl rfl) rfl
    hrun'

theorem exCtx_good_R_R_R : GoodCtx exCtx_R_R_R :=
  { good := exDiamond_good_I
    api := fun h => by cases h
    userN := rfl
    userSub := fun u v h => h
    userWF := exDiamond_good_I.wf
    ordered := by
      -- the only conflicting pair is 0 (writes resource 7) and 3 (reads it), and 0 → 1 → 3
      intro u v hu hv hne hc
      have h03 : ReachP exCtx_R_R_R.c.D 0 3 :=
        ReachP.tail (ReachP.edge ⟨⟨0, 1, .logic⟩, by decide, rfl, rfl⟩) ⟨⟨1, 3, .logic⟩, by decide, rfl, rfl⟩
      have key : ∀ u < 4, ∀ v < 4, conflict (declOf exCtx_R_R_R.decls u) (declOf exCtx_R_R_R.decls v) = true →
          u = v ∨ (u = 0 ∧ v = 3) ∨ (u = 3 ∧ v = 0) := by decide
      rcases key u hu v hv hc with h | ⟨rfl, rfl⟩ | ⟨rfl, rfl⟩
      · exact absurd h hne
      · exact Or.inl h03
      · exact Or.inr h03 }

def exActs_R_R_R : List SAction :=
  [.poll, .poll, .drop 0, .poll, .poll, .drop 2, .interrupt, .drop 1, .poll, .dropStream, .drop 3]

theorem exActs_events : sObsEvents exCtx_R_R_R.c (sinit exCtx_R_R_R.c) exActs_R_R_R = exEvs_R_R_R := by decide

theorem exActs_obsRun : ∃ s, SObsRun exCtx_R_R_R (sinit exCtx_R_R_R.c) exEvs_R_R_R s ∧ s.yielded = [0, 2, 1, 3] := by
  have hsome : ((srun exCtx_R_R_R.c true (sinit exCtx_R_R_R.c) exActs_R_R_R).any
      (fun s => s.yielded == [0, 2, 1, 3])) = true := by decide
  cases hs : srun exCtx_R_R_R.c true (sinit exCtx_R_R_R.c) exActs_R_R_R with
  | none => rw [hs] at hsome; cases hsome
  | some s' =>
    rw [hs] at hsome
    exact ⟨s', exActs_events ▸ sobsRun_of_srun exCtx_R_R_R _ _ _ hs, by simpa using hsome⟩

example : sObsEvents exCtx_R_R_R.c (sinit exCtx_R_R_R.c) exActs_R_R_R = exEvs_R_R_R ∧
    (spredRun exCtx_R_R_R {} exEvs_R_R_R).2.length = 26 ∧
    ∀ n ∈ (spredRun exCtx_R_R_R {} exEvs_R_R_R).2, n.ok = true := by
  obtain ⟨s', hrun, _⟩ := exActs_obsRun
  exact ⟨exActs_events, by decide, spreds_hold exCtx_good_R_R_R (fun _ => Or.inl rfl) hrun⟩

/-- an interruptible stream (`FinishCurrent`) on the diamond: park, signal, drop, the item that was
    being waited for comes as `Interrupted(Some 2)` (the C08 bound `1` is attained), then `None` -/
def exCtxI_R_R_R : MonCtx :=
  { exCtx_R_R_R with c := { exDiamond_I with strat := .finish }, interruptible := true }

theorem exCtxI_good_R_R_R : GoodCtx exCtxI_R_R_R :=
  { exCtx_good_R_R_R with good := exDiamond_good_I.of_eq rfl rfl }

example : sObsEvents exCtxI_R_R_R.c (sinit exCtxI_R_R_R.c) [.poll, .poll, .interrupt, .drop 0, .poll, .poll, .drop 2] =
      [.poll (.some 0), .poll (.pending false), .intr, .drop 0 true, .poll (.isome 2), .poll .none,
       .drop 2 true] ∧
    ∀ n ∈ (spredRun exCtxI_R_R_R {} (sObsEvents exCtxI_R_R_R.c (sinit exCtxI_R_R_R.c)
        [.poll, .poll, .interrupt, .drop 0, .poll, .poll, .drop 2])).2, n.ok = true := by
  obtain ⟨s', hrun'⟩ := sobsRun_of_isSome exCtxI_R_R_R (s := sinit exCtxI_R_R_R.c) (as := [.poll, .poll, .interrupt, .drop 0, .poll, .poll, .drop 2])
    (by decide)
  exact ⟨by decide, spreds_hold_interruptible exCtxI_good_R_R_R rfl hrun'⟩

end FG
