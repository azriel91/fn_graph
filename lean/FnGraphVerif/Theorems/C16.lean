/-
  Theorems/C16.lean — the builder rejects exactly the edges that would close a cycle.
-/
import FnGraphVerif.Proofs.UpdateEdge
namespace FG

theorem applyOps_fst (b : BState) (ops : List Op) :
    (applyOps b ops).1 = ops.foldl (fun b op => (applyOp b op).1) b := by
  unfold applyOps
  suffices ∀ l : List Res, (ops.foldl (fun (st : BState × List Res) op =>
      let r := applyOp st.1 op; (r.1, st.2 ++ [r.2])) (b, l)).1 = ops.foldl (fun b op => (applyOp b op).1) b from
    this []
  induction ops generalizing b with
  | nil => exact fun _ => rfl
  | cons op ops ih => intro l; rw [List.foldl_cons, List.foldl_cons]; exact ih _ _

theorem breach_ops (ops : List Op) (hu : ∀ op ∈ ops, op.isUser = true) {b : BState} (hb : BReach b) :
    BReach (ops.foldl (fun b op => (applyOp b op).1) b) := by
  induction ops generalizing b with
  | nil => exact hb
  | cons op ops ih =>
    rw [List.foldl_cons]
    exact ih (fun o ho => hu o (List.mem_cons_of_mem _ ho)) (BReach.step op (hu op List.mem_cons_self) hb)

theorem breach_applyOps (ops : List Op) (hu : ∀ op ∈ ops, op.isUser = true) {b : BState} (hb : BReach b) :
    BReach (applyOps b ops).1 :=
  applyOps_fst b ops ▸ breach_ops ops hu hb

/-- three `add_fn`, `add_logic_edge(0,1)`, `add_contains_edge(1,2)`: `0 → 1 → 2` on three nodes -/
def exB_B : BState :=
  (applyOps BState.empty [.addFn ⟨[], [], 0⟩, .addFn ⟨[0], [1], 1⟩, .addFn ⟨[1], [], 2⟩, .edge .logic 0 1,
    .edge .contains 1 2]).1

theorem exB_reach_B : BReach exB_B := breach_applyOps _ (by decide) .empty

def exG_B : Dag := ⟨3, [⟨0, 1, .logic⟩, ⟨1, 2, .contains⟩]⟩

theorem exG_good_B : GoodG exG_B := goodG_of_increasing (by decide) (by decide)

/-- the three invariants survive every `update_edge` call, whatever its outcome -/
theorem updateEdge_good {g : Dag} (hg : GoodG g) (a c : Nat) (k : Kind) : GoodG (updateEdge g a c k).1 :=
  updateEdge_preserves (P := GoodG) hg (fun _ _ _ hf => goodG_set hg k (findEdge_some hf))
    (fun ha hc hf hp => goodG_addE hg k ha hc (findEdge_none hf) ((hasPath_false_iff hg.wf hc a).mp hp))

-- non-vacuity: `exG_B` is `0 → 1 → 2` on three nodes (`GoodG exG_B` by `exG_good_B`)
example : updateEdge exG_B 0 2 .logic =
    (⟨3, [⟨0, 1, .logic⟩, ⟨1, 2, .contains⟩, ⟨0, 2, .logic⟩]⟩, .ok 2) := by decide
example : GoodG (⟨3, [⟨0, 1, .logic⟩, ⟨1, 2, .contains⟩, ⟨0, 2, .logic⟩]⟩ : Dag) :=
  updateEdge_good exG_good_B 0 2 .logic
example : GoodG (⟨3, [⟨0, 1, .data⟩, ⟨1, 2, .contains⟩]⟩ : Dag) := updateEdge_good exG_good_B 0 1 .data

/-- **C16**: `WouldCycle` exactly when the target already reaches the source (self-edges included) -/
theorem updateEdge_wouldCycle_iff {g : Dag} (hg : GoodG g) {a c : Nat} (ha : a < g.n) (hcn : c < g.n) (k : Kind) :
    (updateEdge g a c k).2 = .wouldCycle ↔ Reach g c a := by
  rcases updateEdge_cases g a c k with ⟨hb, _⟩ | ⟨_, _, i, hf, h⟩ | ⟨_, _, _, hp, h⟩ | ⟨_, _, _, hp, h⟩
  · omega
  · rw [h]
    constructor
    · intro h'; cases h'
    · intro hr
      exact absurd (ReachP.head (findEdge_isEdge hf) hr) (hg.acyclic a)
  · rw [h]
    exact ⟨fun _ => (hasPath_iff_reach hg.wf hcn a).mp hp, fun _ => rfl⟩
  · rw [h]
    constructor
    · intro h'; cases h'
    · intro hr; exact absurd hr ((hasPath_false_iff hg.wf hcn a).mp hp)

example : (updateEdge exG_B 2 0 .logic).2 = .wouldCycle := by decide
example : (updateEdge exG_B 1 1 .logic).2 = .wouldCycle := by decide
example : Reach exG_B 0 2 :=
  (updateEdge_wouldCycle_iff exG_good_B (a := 2) (c := 0) (by decide) (by decide) .logic).mp (by decide)
example : ¬ Reach exG_B 2 0 := fun h =>
  absurd ((updateEdge_wouldCycle_iff exG_good_B (a := 0) (c := 2) (by decide) (by decide) .logic).mpr h) (by decide)

/-- … which is exactly when adding the edge would close a cycle with the accepted edges -/
theorem wouldCycle_iff_closes_cycle {g : Dag} (hg : GoodG g) {a c : Nat} (ha : a < g.n) (hcn : c < g.n) (k : Kind) :
    (updateEdge g a c k).2 = .wouldCycle ↔ ¬ Acyclic (addE g ⟨a, c, k⟩) := by
  rw [updateEdge_wouldCycle_iff hg ha hcn k]
  constructor
  · intro hr; exact cyclic_addE (e := ⟨a, c, k⟩) hr
  · intro hn
    apply Classical.byContradiction
    intro hr
    exact hn (acyclic_addE (e := ⟨a, c, k⟩) hg.acyclic hr)

example : ¬ Acyclic (addE exG_B ⟨2, 0, .logic⟩) :=
  (wouldCycle_iff_closes_cycle exG_good_B (a := 2) (c := 0) (by decide) (by decide) .logic).mp (by decide)
example : Acyclic (addE exG_B ⟨0, 2, .logic⟩) :=
  Classical.not_not.mp (fun h =>
    absurd ((wouldCycle_iff_closes_cycle exG_good_B (a := 0) (c := 2) (by decide) (by decide) .logic).mpr h) (by decide))

/-- a rejected call leaves the accepted edges intact -/
theorem updateEdge_wouldCycle_unchanged {g : Dag} {a c : Nat} {k : Kind}
    (h : (updateEdge g a c k).2 = .wouldCycle) : (updateEdge g a c k).1 = g := by
  rcases updateEdge_cases g a c k with ⟨_, hu⟩ | ⟨_, _, i, _, hu⟩ | ⟨_, _, _, _, hu⟩ | ⟨_, _, _, _, hu⟩
  · rw [hu]
  · rw [hu] at h; cases h
  · rw [hu]
  · rw [hu] at h; cases h

example : (updateEdge exG_B 2 0 .contains).1 = exG_B :=
  updateEdge_wouldCycle_unchanged (by decide)

/-- an accepted call upserts: the returned index holds `a → c` with the given kind (the most recent
    kind wins), every other edge is untouched, and at most one edge is appended -/
theorem updateEdge_ok_upsert {g : Dag} (hg : GoodG g) {a c i : Nat} {k : Kind}
    (h : (updateEdge g a c k).2 = .ok i) :
    (updateEdge g a c k).1.edges[i]? = some ⟨a, c, k⟩ ∧
    (∀ j, j ≠ i → j < g.edges.length → (updateEdge g a c k).1.edges[j]? = g.edges[j]?) ∧
    ((updateEdge g a c k).1.edges.length = g.edges.length ∨
     ((updateEdge g a c k).1.edges.length = g.edges.length + 1 ∧ i = g.edges.length)) ∧
    (updateEdge g a c k).1.n = g.n := by
  have _ := hg  -- (not needed: the upsert facts hold for every graph)
  rcases updateEdge_cases g a c k with ⟨_, hu⟩ | ⟨_, _, i', hf, hu⟩ | ⟨_, _, _, _, hu⟩ | ⟨_, _, _, _, hu⟩
  · rw [hu] at h; cases h
  · rw [hu] at h ⊢
    cases h
    obtain ⟨e0, he0, _, _⟩ := findEdge_some hf
    have hlt : i < g.edges.length := (List.getElem?_eq_some_iff.mp he0).1
    refine ⟨?_, ?_, Or.inl ?_, rfl⟩
    · simp [hlt]
    · intro j hj _
      simp only
      rw [List.getElem?_set_ne (Ne.symm hj)]
    · simp
  · rw [hu] at h; cases h
  · rw [hu] at h ⊢
    cases h
    refine ⟨?_, ?_, Or.inr ⟨?_, rfl⟩, rfl⟩
    · simp [addE]
    · intro j _ hj
      simp only [addE]
      rw [List.getElem?_append_left hj]
    · simp [addE]

-- overwrite in place (the most recent kind wins) and append
example : updateEdge exG_B 0 1 .contains = (⟨3, [⟨0, 1, .contains⟩, ⟨1, 2, .contains⟩]⟩, .ok 0) := by decide
example : (updateEdge exG_B 0 1 .contains).1.edges[0]? = some ⟨0, 1, .contains⟩ :=
  (updateEdge_ok_upsert exG_good_B (i := 0) (by decide)).1
example : (updateEdge exG_B 0 2 .logic).1.edges[2]? = some ⟨0, 2, .logic⟩ :=
  (updateEdge_ok_upsert exG_good_B (i := 2) (by decide)).1

/-- batch forms: a left fold of single calls that stops at the first call that is not `Ok`
    (`WouldCycle`; an index out of bounds panics), keeping what was accepted before it -/
theorem applyEdges_cons (k : Kind) (g : Dag) (a c : Nat) (ps : List (Nat × Nat)) (acc : List Nat) :
    applyEdges k g ((a, c) :: ps) acc =
      match updateEdge g a c k with
      | (g', .ok i) => applyEdges k g' ps (acc ++ [i])
      | (g', r) => (g', r) := by
  rfl

-- the batch stops at the first `WouldCycle` (`2 → 0`), keeps the accepted `0 → 2`, never tries `2 → 1`
example : applyEdges .logic exG_B [(0, 2), (2, 0), (2, 1)] [] =
    (⟨3, [⟨0, 1, .logic⟩, ⟨1, 2, .contains⟩, ⟨0, 2, .logic⟩]⟩, .wouldCycle) := by decide
example : applyEdges .logic exG_B [(0, 2), (0, 1)] [] =
    (⟨3, [⟨0, 1, .logic⟩, ⟨1, 2, .contains⟩, ⟨0, 2, .logic⟩]⟩, .oks [2, 0]) := by decide

theorem applyEdges_good {g : Dag} (hg : GoodG g) (k : Kind) (ps : List (Nat × Nat)) (acc : List Nat) :
    GoodG (applyEdges k g ps acc).1 :=
  applyEdges_preserves (P := GoodG) (fun _ a c h => updateEdge_good h a c k) ps g acc hg

example : GoodG (⟨3, [⟨0, 1, .logic⟩, ⟨1, 2, .contains⟩, ⟨0, 2, .logic⟩]⟩ : Dag) :=
  applyEdges_good exG_good_B .logic [(0, 2), (2, 0), (2, 1)] []

/-- **C16**: every builder state is well-formed, has at most one edge per ordered pair, is acyclic,
    and holds only logic/contains edges -/
theorem breach_good {b : BState} (h : BReach b) :
    GoodG b.graph ∧ ∀ e ∈ b.edges, e.kind ≠ .data := by
  induction h with
  | empty => exact ⟨goodG_of_increasing (fun e he => by cases he) List.Pairwise.nil, fun e he => by cases he⟩
  | @step b op hk _ ih =>
    obtain ⟨hg, hkd⟩ := ih
    cases op with
    | addFn d => exact ⟨goodG_addFn d hg, hkd⟩
    | edge k a c =>
      have hk' : k ≠ .data := by simpa [Op.isUser] using hk
      exact ⟨applyOp_edge_graph b k a c ▸ updateEdge_good hg a c k, updateEdge_kinds hk' hkd⟩
    | edges k ps =>
      have hk' : k ≠ .data := by simpa [Op.isUser] using hk
      exact ⟨applyOp_edges_graph b k ps ▸ applyEdges_good hg k ps [], applyEdges_kinds hk' ps [] hkd⟩

example : BReach exB_B := exB_reach_B
example : exB_B.graph = ⟨3, [⟨0, 1, .logic⟩, ⟨1, 2, .contains⟩]⟩ := by decide
example : GoodG exB_B.graph ∧ ∀ e ∈ exB_B.edges, e.kind ≠ .data := breach_good exB_reach_B
-- a rejected batch still yields a reachable (hence good) state
example : BReach (applyOp exB_B (.edges .logic [(0, 2), (2, 0)])).1 := BReach.step _ rfl exB_reach_B
example : (applyOp exB_B (.edges .logic [(0, 2), (2, 0)])).2 = .wouldCycle := by decide

/-- at most one edge per ordered pair, stated on indices -/
theorem breach_pairs_unique {b : BState} (h : BReach b) {i j : Nat} {e1 e2 : Edge}
    (h1 : b.edges[i]? = some e1) (h2 : b.edges[j]? = some e2) (hs : e1.src = e2.src) (ht : e1.tgt = e2.tgt) :
    i = j :=
  (simple_iff_index_inj b.graph).mp (breach_good h).1.simple i j e1 e2 h1 h2 hs ht

-- the hypotheses are satisfiable (`i = j = 1`), and the statement has content: a list with a
-- repeated pair is not the edge list of any reachable builder state
example : exB_B.edges[1]? = some ⟨1, 2, .contains⟩ := by decide
example : ¬ BReach ⟨[⟨[], [], 0⟩, ⟨[], [], 0⟩], [⟨0, 1, .logic⟩, ⟨0, 1, .contains⟩]⟩ := fun h =>
  absurd (breach_pairs_unique h (i := 0) (j := 1) rfl rfl rfl rfl) (by decide)

end FG
