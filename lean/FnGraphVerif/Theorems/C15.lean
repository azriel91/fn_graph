/-
  Theorems/C15.lean — re-running a graph, and running it twice at the same time (C15, C20).

  In the model a built graph is an immutable value and a run is a function of
  (configuration, actions) starting from `init c`, where `c` is computed from the graph and the
  call's options only.  The frame theorems below make explicit that every single-run theorem
  therefore applies to the k-th run of any history and to each component of any interleaving of
  two runs.  What they do NOT show is that the *implementation* keeps no state between or across
  runs — that is what the H-hist / pair facets of the correspondence check exercise on one real
  graph value (DESIGN.md sections 5.2, 6 C15/C20).
-/
import FnGraphVerif.Proofs.RunBase
namespace FG

theorem run_reachable {c : Cfg} {s s' : PState} (hr : Reachable c s) {as : List Action}
    (h : run c s as = some s') : Reachable c s' :=
  hr.of_run h

theorem reachable_run {c : Cfg} {s : PState} (hr : Reachable c s) : ∃ as, run c (init c) as = some s :=
  reachableFrom_iff_run.mp (reachable_iff_reachableFrom.mp hr)

/-- a history of runs on one graph value: one `(configuration, actions)` per call -/
def runHistory (hist : List (Cfg × List Action)) : List (Option PState) :=
  hist.map (fun p => run p.1 (init p.1) p.2)

/-- **C15**: the k-th run of any history — whatever the earlier runs did (completed, interrupted,
    failed, abandoned midway) and whatever comes later — is the same run on a fresh graph. -/
theorem runs_independent_of_history (pre post : List (Cfg × List Action)) (c : Cfg) (as : List Action) :
    (runHistory (pre ++ (c, as) :: post))[pre.length]? = some (run c (init c) as) := by
  simp [runHistory]

/-- … and therefore every state of every run of a history is a `Reachable` state of its own
    configuration, so every single-run theorem applies to it. -/
theorem history_states_reachable (hist : List (Cfg × List Action)) (k : Nat) (c : Cfg) (as : List Action)
    (s : PState) (hk : hist[k]? = some (c, as)) (hs : (runHistory hist)[k]? = some (some s)) : Reachable c s := by
  simp only [runHistory, List.getElem?_map, hk, Option.map_some, Option.some.injEq] at hs
  exact Reachable.init.of_run hs

/-- two runs on one graph, their actions interleaved arbitrarily -/
inductive Reachable2 (c1 c2 : Cfg) : PState × PState → Prop
  | init : Reachable2 c1 c2 (init c1, init c2)
  | left {s1 s1' s2 : PState} (a : Action) : Reachable2 c1 c2 (s1, s2) → step? c1 s1 a = some s1' →
      Reachable2 c1 c2 (s1', s2)
  | right {s1 s2 s2' : PState} (a : Action) : Reachable2 c1 c2 (s1, s2) → step? c2 s2 a = some s2' →
      Reachable2 c1 c2 (s1, s2')

/-- **C20**: under every interleaving each of two simultaneous runs is a run of its own: every
    ordering, exactly-once, termination and outcome theorem holds of it as if it were alone. -/
theorem pair_projects {c1 c2 : Cfg} {p : PState × PState} (h : Reachable2 c1 c2 p) :
    Reachable c1 p.1 ∧ Reachable c2 p.2 := by
  induction h with
  | init => exact ⟨Reachable.init, Reachable.init⟩
  | left a _ hs ih => exact ⟨Reachable.step a ih.1 hs, ih.2⟩
  | right a _ hs ih => exact ⟨ih.1, Reachable.step a ih.2 hs⟩

/-- … and conversely no interleaving is excluded: any two single-run states can be reached together. -/
theorem pair_any {c1 c2 : Cfg} {s1 s2 : PState} (h1 : Reachable c1 s1) (h2 : Reachable c2 s2) :
    Reachable2 c1 c2 (s1, s2) := by
  induction h1 with
  | init =>
    induction h2 with
    | init => exact Reachable2.init
    | step a _ hs ih => exact Reachable2.right a ih hs
  | step a _ hs ih => exact Reachable2.left a ih hs

end FG
