/-
  Theorems/C04.lean — liveness of the run protocol: the internal actions always come to rest
  (`settle`), and at rest with nothing in flight the call HAS returned — no deadlock, for every
  graph including the empty one, every API kind, limit, strategy, include flag, failing subset,
  completion order.  Also C03 (clean run hands out everything), C06 (no needless waiting) and
  C10 (any limit still completes).

  All statements hold under `GoodCfg` alone (no `Cfg.ApiOk` needed).  Each is proved once for a
  state satisfying `RunInv` (`Inv0` and the liveness invariant `LInv`, J1–J5) and then read off for
  reachable states.
-/
import FnGraphVerif.Proofs.LiveMeasure
import FnGraphVerif.Proofs.ExampleStates
import FnGraphVerif.Proofs.Fwd
namespace FG

variable {c : Cfg} {s : PState}

/-- `settle` only performs actions of the transition system -/
theorem settle1_reachable (hr : Reachable c s) {a : Action} {s' : PState}
    (h : settle1 c s = some (a, s')) : Reachable c s' :=
  Reachable.step a hr (settle1_step h)

theorem settle_reachable (hr : Reachable c s) : Reachable c (settle c s) :=
  settleN_reachable _ hr

/- non-vacuity (diamond `0→1→3`, `0→2→3`, limit 2, see `Proofs/ExampleStates.lean`): from the initial
   state `settle` really moves — it hands out and invokes the root -/
set_option maxRecDepth 100000 in
example : settle1 (exC_G (some 2)) (init (exC_G (some 2))) ≠ none ∧
    (settle (exC_G (some 2)) (init (exC_G (some 2)))).inflight = [0] ∧
    (settle (exC_G (some 2)) (init (exC_G (some 2)))).invoked = [0] := by
  rw [show settle (exC_G (some 2)) (init (exC_G (some 2))) = _ from exS0_eq_G]
  exact ⟨by decide, rfl, rfl⟩
example : Reachable (exC_G (some 2)) (settle (exC_G (some 2)) (init (exC_G (some 2)))) := settle_reachable .init

/-- the internal actions terminate: `settle` reaches a quiescent state within its fuel -/
theorem settle_quiescent (hc : GoodCfg c) (hr : Reachable c s) :
    Quiescent c (settle c s) :=
  settle_quiescent_of_inv hc (inv0_reachable hc hr)

/- non-vacuity: the theorem applied to the diamond; the settled state differs from the initial one
   (so quiescence is not the trivial "nothing to do"), and mid-run (`1`, `2` in flight) likewise -/
example : Quiescent (exC_G (some 2)) (settle (exC_G (some 2)) (init (exC_G (some 2)))) :=
  settle_quiescent (exC_good_G _) .init
set_option maxRecDepth 100000 in
example : ¬ Quiescent (exC_G (some 2)) (init (exC_G (some 2))) ∧ exS1_G.inflight = [2, 1] ∧ exS1_G.result = none := by
  rw [exS1_eq_G]; decide

/-- The idea: not returned and nothing in flight.  The queuer is not done, so the done sender is
    open and nothing failed (`key`).  Either the scheduler is done, impossible by J5, J3, J4 and `shortFailed`; or its
    poll answers `Pending`, and then by induction along the edges (`LInv.frontier_handed`) every node
    has ended, so the scheduler's counter is 0: the done sender would be closed. -/
theorem deadlock_free_of_inv (hc : GoodCfg c) (h : RunInv c s) (hq : Quiescent c s)
    (hi : s.inflight = []) : s.result.isSome = true := by
  obtain ⟨hinv, hl⟩ := h
  cases hres : s.result with
  | some r => rfl
  | none =>
  exfalso
  obtain ⟨_, ha, hb, _, hd, he⟩ := nextInternal_none (quiescent_iff.mp hq) hres
  have key : s.qDone = false → (s.sRemaining ≠ 0 ∧ s.failed = [] ∧ s.im.ian = false ∧ s.doneQ = [] ∧
      s.doneTxOpen = true) := by
    intro hqd
    have hdt : s.doneTxOpen = true := hb.resolve_left (by rw [hqd]; simp)
    obtain ⟨h1, h2, _, h4⟩ := hl.txOpen hdt
    refine ⟨h1, h2, (Bool.not_eq_true _).mp fun hian => ?_, ha.resolve_left (by rw [hqd]; simp), hdt⟩
    obtain ⟨f, _, hf⟩ := h4 hian
    rw [hi] at hf; cases hf
  cases hsd : s.sDone with
  | true =>
    have hqd : s.qDone = false := (Bool.not_eq_true _).mp fun hq' => he ⟨hsd, hq'⟩
    obtain ⟨h1, h2, h3, _⟩ := key hqd
    rcases hl.sd hsd with hse | hsh
    · rcases hl.ended hse with h | ⟨_, h⟩
      · rw [h3] at h; cases h
      · rcases hl.rtx h with h | h
        · rw [hqd] at h; cases h
        · exact h1 (hinv.sRem_zero_of_qRem_zero h)
    · exact hl.shortFailed hsh h2
  | false =>
    have hse : s.streamEnded = false := (Bool.not_eq_true _).mp fun h => hd ⟨h, hi, hsd⟩
    obtain ⟨hrq, hrt⟩ := quiescent_poll_stuck hq hres hsd hse (underLimit_nil hi)
    have hqd : s.qDone = false := (Bool.not_eq_true _).mp fun hq' => by
      have := hl.qd hq'; rw [hrt] at this; cases this
    obtain ⟨h1, h2, h3, hdq, hdt⟩ := key hqd
    -- along the edges every node has ended, so the scheduler's counter is 0
    have hall : ∀ v, v < c.D.n → v ∈ s.endedOk := by
      apply parents_induction hc.wf hc.acyclic
      intro v hv hpar
      rcases hinv.handedSplit v
        (hl.frontier_handed hdt hdq hrq hrt (hl.rrx_open hse hsd) h3 hv hpar) with h | h | h
      · rw [hi] at h; cases h
      · exact h
      · rw [h2] at h; cases h
    have hlen := List.Nodup.length_le_of_subset List.nodup_range
      (fun x hx => hall x (List.mem_range.mp hx) : List.range c.D.n ⊆ s.endedOk)
    have hsr := hinv.sRem
    rw [List.length_range] at hlen
    unfold Cfg.n at hsr
    omega

/-- **C04** (deadlock freedom): quiescent and nothing in flight ⇒ the call has returned. -/
theorem deadlock_free (hc : GoodCfg c) (hr : Reachable c s) (hq : Quiescent c s)
    (hi : s.inflight = []) : s.result.isSome = true :=
  deadlock_free_of_inv hc (.of_reachable hc hr) hq hi

/- non-vacuity: after `0`, `2`, `1`, `3` have completed the hypotheses hold (reachable, quiescent,
   nothing in flight) and the theorem gives the return; while `1` and `2` are in flight the state is
   quiescent but the call has (rightly) not returned — the hypothesis `inflight = []` is needed -/
set_option maxRecDepth 100000 in
example : exS4_G.result.isSome = true :=
  deadlock_free (exC_good_G _) exS4_reach_G (by rw [exS4_eq_G]; decide) (by rw [exS4_eq_G])
set_option maxRecDepth 100000 in
example : Quiescent (exC_G (some 2)) exS1_G ∧ exS1_G.inflight ≠ [] ∧ exS1_G.result.isSome = false := by
  rw [exS1_eq_G]; decide
/- the empty graph returns without any function: both senders are closed by `init` -/
set_option maxRecDepth 100000 in
example : (settle { D := ⟨0, []⟩, counts0 := [] } (init { D := ⟨0, []⟩, counts0 := [] })).result
    = some (.outcome true [] [] []) := by decide

theorem run_internal_endedOk {as : List Action} {s s' : PState} (has : ∀ a ∈ as, a.internal)
    (h : run c s as = some s') : s'.endedOk = s.endedOk :=
  run_rel (R := fun s s' => s'.endedOk = s.endedOk) (fun _ => rfl) (fun h1 h2 => h2.trans h1)
    (fun ha h => (internal_step_lists ha h).1) has h

/-- one round: run the internal actions to rest; then either the call has returned, or an invoked
    function is in flight, and letting it complete lengthens `endedOk` -/
theorem settle_round (hc : GoodCfg c) (h : RunInv c s) :
    ∃ as, (∀ a ∈ as, a.internal) ∧ run c s as = some (settle c s) ∧
      ((settle c s).result.isSome = true ∨
       ∃ f s2, step? c (settle c s) (.finish f true) = some s2 ∧ RunInv c s2 ∧
         s2.endedOk = s.endedOk ++ [f] ∧ s.endedOk.length + 1 ≤ c.n) := by
  obtain ⟨as, has, hrun⟩ : ∃ as, (∀ a ∈ as, a.internal) ∧ run c s as = some (settle c s) :=
    settleN_run (settleFuel c) s
  have h1 : RunInv c (settle c s) := h.run hc hrun
  have hq1 : Quiescent c (settle c s) := settle_quiescent_of_inv hc h.safe
  refine ⟨as, has, hrun, ?_⟩
  cases hres : (settle c s).result with
  | some r => exact .inl rfl
  | none =>
    right
    cases hi : (settle c s).inflight with
    | nil =>
      have := deadlock_free_of_inv hc h1 hq1 hi
      rw [hres] at this
      cases this
    | cons f rest =>
      have hfi : f ∈ (settle c s).inflight := by rw [hi]; exact List.mem_cons_self
      have hs2 : step? c (settle c s) (.finish f true) = some (finW c (settle c s) f true) :=
        step_finish_of ⟨hfi, quiescent_invoke_quiet hq1 hres f hfi, rfl⟩
      have h2 := h1.step hc hs2
      have heo2 : (finW c (settle c s) f true).endedOk = s.endedOk ++ [f] := by
        show (settle c s).endedOk ++ [f] = _
        rw [run_internal_endedOk has hrun]
      have hlen := nodup_bounded_length h2.safe.endedOk_nodup (n := c.n) (fun x hx => h2.safe.endedOk_lt hx)
      rw [heo2, List.length_append, List.length_singleton] at hlen
      exact ⟨f, _, hs2, h2, heo2, hlen⟩

theorem eventually_returns_of_inv (hc : GoodCfg c) (h : RunInv c s) :
    ∃ as s', (∀ a ∈ as, a ≠ .interrupt ∧ ∀ f, a ≠ .finish f false) ∧ run c s as = some s' ∧
      s'.result.isSome = true := by
  -- by induction on the number of functions that have not yet ended
  induction hk : c.n - s.endedOk.length using Nat.strong_induction_on generalizing s with
  | _ k ih =>
    obtain ⟨as, has, hrun, hret | ⟨f, s2, hs2, h2, heo2, hlen⟩⟩ := settle_round hc h
    · exact ⟨as, _, fun a ha => (has a ha).no_failure, hrun, hret⟩
    · obtain ⟨bs, s3, hbs, hrun3, hres3⟩ :=
        ih _ (by rw [heo2, List.length_append, List.length_singleton]; omega) h2 rfl
      refine ⟨as ++ (.finish f true :: bs), s3, fun a ha => ?_, ?_, hres3⟩
      · rcases List.mem_append.mp ha with ha | ha
        · exact (has a ha).no_failure
        · rcases List.mem_cons.mp ha with rfl | ha
          · exact ⟨nofun, nofun⟩
          · exact hbs a ha
      · rw [run_append_of hrun, run_cons_bind, hs2]
        exact hrun3

/-- **C04 / C10**: from every reachable state, letting the in-flight user futures complete (in any
    order the model picks) and running the internal actions makes the call return — for every limit,
    strategy and failing history so far. -/
theorem eventually_returns (hc : GoodCfg c) (hr : Reachable c s) :
    ∃ as s', (∀ a ∈ as, a ≠ .interrupt ∧ ∀ f, a ≠ .finish f false) ∧ run c s as = some s' ∧
      s'.result.isSome = true :=
  eventually_returns_of_inv hc (.of_reachable hc hr)

/- non-vacuity: from the mid-run state with `1`, `2` in flight the theorem yields a completing
   schedule; concretely the schedule "finish 2, finish 1, finish 3" (with `settle` in between) returns
   `Finished` with all four functions processed -/
example : ∃ as s', (∀ a ∈ as, a ≠ .interrupt ∧ ∀ f, a ≠ .finish f false) ∧
    run (exC_G (some 2)) exS1_G as = some s' ∧ s'.result.isSome = true :=
  eventually_returns (exC_good_G _) exS1_reach_G
set_option maxRecDepth 100000 in
example : exS4_G.result = some (.outcome true [0, 2, 1, 3] [] []) := by rw [exS4_eq_G]

theorem clean_return_all_of_inv (h : RunInv c s) {r : Ret}
    (hres : s.result = some r) (hni : s.im.recv = false) (hf : s.failed = []) :
    s.handedOut.Perm (List.range c.n) := by
  obtain ⟨hinv, hl⟩ := h
  obtain ⟨_, hqd, _⟩ := hinv.ret0 r hres
  have hs0 : s.sRemaining = 0 := by
    rcases hl.qDone_pdone hqd with h | h | h
    · exact h
    · exact absurd hf h
    · rw [hni] at h; exact absurd h (by simp)
  apply (List.perm_ext_iff_of_nodup hinv.handedOut_nodup List.nodup_range).mpr
  intro v
  constructor
  · intro hv; exact List.mem_range.mpr (hinv.bound v (Or.inr (Or.inl hv)))
  · intro hv
    exact hinv.endedHanded v (Or.inl (hinv.all_ended hs0 hf (List.mem_range.mp hv)))

/-- **C03**: a run that returned without an interrupt being received and without a failure handed
    out every function (exactly once, by `handout_nodup`). -/
theorem clean_return_all (hc : GoodCfg c) (hr : Reachable c s) {r : Ret}
    (h : s.result = some r) (hni : s.im.recv = false) (hf : s.failed = []) :
    s.handedOut.Perm (List.range c.n) :=
  clean_return_all_of_inv (.of_reachable hc hr) h hni hf

/- non-vacuity: the completed diamond run satisfies the hypotheses; its hand-out order is `0,2,1,3` -/
set_option maxRecDepth 100000 in
example : exS4_G.handedOut.Perm (List.range 4) :=
  clean_return_all (exC_good_G _) exS4_reach_G (r := .outcome true [0, 2, 1, 3] [] [])
    (by rw [exS4_eq_G]) (by rw [exS4_eq_G]) (by rw [exS4_eq_G])
set_option maxRecDepth 100000 in
example : exS4_G.handedOut = [0, 2, 1, 3] := by rw [exS4_eq_G]

/-- **C06** (no needless waiting): unlimited, uninterrupted, no failure: at every quiescent point
    every function whose predecessors in the scheduling graph have all returned has been handed out
    (and invoked). -/
theorem maximal_progress (hc : GoodCfg c) (hr : Reachable c s) (hq : Quiescent c s)
    (hseq : c.sequential = false) (hlim : c.limit = none ∨ c.limit = some 0)
    (hni : s.im.sent = false ∧ s.im.recv = false) (hf : s.failed = [])
    {v : Nat} (hv : v < c.n) (hp : ∀ p ∈ parents c.D v, p ∈ s.endedOk) :
    v ∈ s.handedOut ∧ v ∈ s.invoked :=
  work_conserving (.of_reachable hc hr) hq (underLimit_unlimited hseq hlim) hni.2 hf hv hp

/- non-vacuity (unlimited diamond, `0` and `1` returned, `2` still running): node `2`'s only parent has
   returned, so it has been handed out and invoked; node `3` (parent `2` still running) has not -/
set_option maxRecDepth 100000 in
example : 2 ∈ exU2_G.handedOut ∧ 2 ∈ exU2_G.invoked :=
  maximal_progress (exC_good_G _) exU2_reach_G (by rw [exU2_eq_G]; decide) rfl (Or.inl rfl)
    (by rw [exU2_eq_G]; decide) (by rw [exU2_eq_G]) (v := 2) (by decide) (by rw [exU2_eq_G]; decide)
set_option maxRecDepth 100000 in
example : exU2_G.endedOk = [0, 1] ∧ exU2_G.inflight = [2] ∧ 3 ∉ exU2_G.handedOut := by rw [exU2_eq_G]; decide

/-- **C10** (a limit is work-conserving): below the limit the scheduler's poll is not disabled -/
theorem idle_below_limit_all_started (hc : GoodCfg c) (hr : Reachable c s) (hq : Quiescent c s)
    (hseq : c.sequential = false) {l : Nat} (hlim : c.limit = some (l + 1))
    (hlt : s.inflight.length < l + 1)
    (hni : s.im.sent = false ∧ s.im.recv = false) (hf : s.failed = [])
    {v : Nat} (hv : v < c.n) (hp : ∀ p ∈ parents c.D v, p ∈ s.endedOk) :
    v ∈ s.handedOut ∧ v ∈ s.invoked :=
  work_conserving (.of_reachable hc hr) hq ((underLimit_par_iff hseq hlim).mpr hlt) hni.2 hf hv hp

/- non-vacuity (states of `Proofs/ExampleStates.lean`): limit 2, `0` and `2` have returned, `1` is
   running, below the limit -/
set_option maxRecDepth 100000 in
example : 1 ∈ exS2_G.handedOut ∧ 1 ∈ exS2_G.invoked :=
  idle_below_limit_all_started (l := 1) (exC_good_G _) exS2_reach_G (by rw [exS2_eq_G]; decide) rfl rfl
    (by rw [exS2_eq_G]; decide) (by rw [exS2_eq_G]; decide) (by rw [exS2_eq_G]) (by decide)
    (by rw [exS2_eq_G]; decide)

/- the state really is below its limit with a function still waiting (`3`, parent `1` running) -/
set_option maxRecDepth 100000 in
example : exS2_G.inflight = [1] ∧ exS2_G.result = none ∧ 3 ∉ exS2_G.invoked := by rw [exS2_eq_G]; decide

/-- limit 1: after `0` has returned one of `1`, `2` runs and the other is ready but not started -/
def exL1_U : PState := exStep_G (some 1) (settle (exC_G (some 1)) (init (exC_G (some 1)))) 0 true

theorem exL1_reach_U : Reachable (exC_G (some 1)) exL1_U :=
  exStep_reachable_G (settleN_reachable _ .init) _ _

/- the hypothesis "fewer than the limit in flight" is needed: AT the limit (limit 1, `2` running)
   the state is quiescent, clean, node `1` has its only parent `0` returned, and `1` is NOT started -/
set_option maxRecDepth 100000 in
example : Quiescent (exC_G (some 1)) exL1_U ∧ exL1_U.inflight.length = 1 ∧ exL1_U.failed = [] ∧
    (∀ p ∈ parents (exC_G (some 1)).D 1, p ∈ exL1_U.endedOk) ∧ 1 ∉ exL1_U.invoked ∧
    underLimit (exC_G (some 1)) exL1_U = false := by decide

end FG
