/-
  C05 for `FnRef` drops that land DURING a poll.

  `Model/StreamMicro.lean` splits one `poll_next` of the plain stream (fixed closure, `drain = true`)
  into `pollBegin ; drainStep* ; readyStep`; `drop f` (another thread) is enabled between any two
  micro steps.  All statements hold for every interleaving.  The atomic model (`Theorems/C05.lean`)
  is the special case in which no drop lands inside a poll (`micro_refines_atomic`,
  `micro_atomic_run`).
-/
import FnGraphVerif.Proofs.MicroRefine
namespace FG

variable {c : Cfg} {m m' : MState}

/-- **C05 (micro)**: drops at any micro step, polls, an early stream drop: no panic -/
theorem micro_no_panic (hc : GoodCfg c) (hr : MReachable c m) : m.s.panic = false :=
  (minv_reachable hc hr).core.noPanic

/-- the run used below, on the diamond: yield 0; inside the 2nd poll `drop 0` lands BEFORE the
    `drainStep` that would have registered the waker, is drained by the same poll, 2 is yielded;
    3rd poll yields 1; inside the 4th poll `drop 2` lands while draining and `drop 1` lands AFTER the
    registering `drainStep` (between it and `readyStep`): the poll answers `Pending` but `wake` is set;
    the 5th poll yields 3; the stream is dropped early (before `None`). -/
def exMicroDiamond_M : List MAction :=
  [.pollBegin, .drainStep, .readyStep,
   .pollBegin, .drop 0, .drainStep, .drainStep, .readyStep,
   .pollBegin, .drainStep, .readyStep,
   .pollBegin, .drop 2, .drainStep, .drainStep, .drop 1, .readyStep,
   .pollBegin, .drainStep, .drainStep, .readyStep, .dropStream]

example : MReachable exDiamond_I (mexRun exDiamond_I exMicroDiamond_M) ∧
    (mexRun exDiamond_I exMicroDiamond_M).s.panic = false ∧
    (mexRun exDiamond_I exMicroDiamond_M).s.yielded = [0, 2, 1, 3] ∧
    (mexRun exDiamond_I exMicroDiamond_M).s.streamDropped = true :=
  ⟨mexRun_reachable (by decide), micro_no_panic exDiamond_good_I (mexRun_reachable (by decide)),
   by decide, by decide⟩

/-- **C05 (micro, no lost wake-up)**: whenever the consumer is outside a poll, parked (its last poll
    returned `Pending`), and some function has all its predecessors dropped — no matter at which
    micro step of which poll those drops landed — a wake-up has been signalled. -/
theorem micro_no_lost_wakeup (hc : GoodCfg c) (hr : MReachable c m) (hpc : m.pc = .idle)
    (hd : m.s.streamDropped = false) (hp : m.s.lastPending = true) (hn : needsPoll c m.s) :
    m.s.wake = true :=
  (minv_reachable hc hr).core.no_lost_wakeup ((minv_reachable hc hr).park hpc) hd hp hn

/-- the mid-poll form of the same fact (the key step): once the drain loop has seen the done channel
    empty, a consumer that still holds its senders is woken or registered on a still empty channel -/
theorem micro_registered (hc : GoodCfg c) (hr : MReachable c m) (hpc : m.pc = .readyPoll)
    (htx : m.s.txOpen = true) : m.s.wake = true ∨ (m.s.doneQ = [] ∧ m.s.doneRxWaker = true) :=
  (minv_reachable hc hr).registered hpc htx

/-- non-vacuity, join `0 → 2 ← 1`, both drops INSIDE the third poll, AFTER the `drainStep` that
    registered the waker: the poll answers `Pending`, node 2 needs a poll, `wake` is set. -/
example :
    let m := mexRun exJoin_I [.pollBegin, .drainStep, .readyStep, .pollBegin, .drainStep, .readyStep,
      .pollBegin, .drainStep, .drop 0, .drop 1, .readyStep]
    MReachable exJoin_I m ∧ m.pc = .idle ∧ m.s.streamDropped = false ∧ m.s.lastPending = true ∧
      m.result = some .pending ∧ needsPoll exJoin_I m.s ∧ m.s.wake = true :=
  ⟨mexRun_reachable (by decide), by decide, by decide, by decide, by decide,
   ⟨2, by decide, by decide, by decide⟩, by decide⟩

/-- non-vacuity, the other case: both drops land inside the third poll BEFORE the registering
    `drainStep`; later `drainStep`s of the same poll drain them and the poll yields node 2. -/
example :
    let m := mexRun exJoin_I [.pollBegin, .drainStep, .readyStep, .pollBegin, .drainStep, .readyStep,
      .pollBegin, .drop 0, .drainStep, .drop 1, .drainStep, .drainStep, .readyStep]
    MReachable exJoin_I m ∧ m.pc = .idle ∧ m.result = some (.some 2) ∧ m.s.lastPending = false :=
  ⟨mexRun_reachable (by decide), by decide, by decide, by decide⟩

/-- **C05 (micro)**: when a poll completes with `Pending` (the `readyStep` that produced it) and
    `wake` is not set afterwards, every unyielded function is blocked by an undropped `FnRef` of a
    direct predecessor — whatever drops landed inside that poll. -/
theorem micro_pending_not_stalled (hc : GoodCfg c) (hr : MReachable c m)
    (hs : mstep? c m .readyStep = some m') (hp : m'.result = some .pending) :
    m'.s.wake = true ∨
    ∀ v, v < c.n → v ∉ m'.s.yielded → ∃ p ∈ parents c.D v, p ∉ m'.s.droppedRefs := by
  have hi := minv_reachable hc (MReachable.step .readyStep hr hs)
  obtain ⟨hpc, rfl⟩ := mstep_readyStep_iff.mp hs
  have hsd : m.s.streamDropped = false := (minv_reachable hc hr).inPoll (by rw [hpc]; simp)
  exact hi.core.parked_not_stalled (hi.park rfl) ((sReadyHalf_facts m.s).1.trans hsd)
    (decide_eq_true (Option.some.inj hp))

/-- non-vacuity on the diamond: after yielding 0 the second poll answers `Pending` with `wake = false`
    (0's ref is live: 1, 2 are blocked by 0, 3 by 1 and 2) … -/
example :
    let m := mexRun exDiamond_I [.pollBegin, .drainStep, .readyStep, .pollBegin, .drainStep]
    let m' := mexRun exDiamond_I [.pollBegin, .drainStep, .readyStep, .pollBegin, .drainStep, .readyStep]
    MReachable exDiamond_I m ∧ mstep? exDiamond_I m .readyStep = some m' ∧ m'.result = some .pending ∧
      m'.s.wake = false :=
  ⟨mexRun_reachable (by decide), by decide, by decide, by decide⟩

/-- … and with `drop 0` landing between the registering `drainStep` and `readyStep` the poll still
    answers `Pending` (nothing was drained) but `wake = true`: the left disjunct. -/
example :
    let m := mexRun exDiamond_I [.pollBegin, .drainStep, .readyStep, .pollBegin, .drainStep, .drop 0]
    let m' := mexRun exDiamond_I [.pollBegin, .drainStep, .readyStep, .pollBegin, .drainStep, .drop 0, .readyStep]
    MReachable exDiamond_I m ∧ mstep? exDiamond_I m .readyStep = some m' ∧ m'.result = some .pending ∧
      m'.s.wake = true ∧ m'.s.doneQ = [0] :=
  ⟨mexRun_reachable (by decide), by decide, by decide, by decide, by decide⟩

/-- **C03 (micro)**: nothing is queued or yielded twice -/
theorem micro_yield_nodup (hc : GoodCfg c) (hr : MReachable c m) : (m.s.readyQ ++ m.s.yielded).Nodup :=
  (minv_reachable hc hr).core.queueNodup

example : MReachable exDiamond_I (mexRun exDiamond_I exMicroDiamond_M) ∧
    (mexRun exDiamond_I (exMicroDiamond_M.take 19)).s.readyQ ++ (mexRun exDiamond_I (exMicroDiamond_M.take 19)).s.yielded
      = [3, 0, 2, 1] :=
  ⟨mexRun_reachable (by decide), by decide⟩

/-- **C02 (micro)**: a function is queued / yielded only after the `FnRef`s of all its ancestors were dropped -/
theorem micro_yield_after_ancestors (hc : GoodCfg c) (hr : MReachable c m) {u v : Nat}
    (hv : v ∈ m.s.readyQ ∨ v ∈ m.s.yielded) (huv : ReachP c.D u v) :
    u ∈ m.s.droppedRefs ∧ u ∉ m.s.live :=
  (minv_reachable hc hr).core.yield_after_ancestors hv huv

/-- non-vacuity: in the diamond run node 3 sits in the ready queue mid-poll (after the `drainStep`
    that released 1); its proper ancestor 0 was dropped inside an earlier poll -/
example :
    let m := mexRun exDiamond_I (exMicroDiamond_M.take 19)
    MReachable exDiamond_I m ∧ m.pc = .draining ∧ 3 ∈ m.s.readyQ ∧ ReachP exDiamond_I.D 0 3 ∧
      0 ∈ m.s.droppedRefs :=
  ⟨mexRun_reachable (by decide), by decide, by decide,
   ReachP.tail (ReachP.edge ⟨⟨0, 1, .logic⟩, by decide, rfl, rfl⟩) ⟨⟨1, 3, .logic⟩, by decide, rfl, rfl⟩,
   by decide⟩

/-- **C01 (micro)**: two functions ordered by the scheduling graph never have live `FnRef`s together -/
theorem micro_no_ancestor_live (hc : GoodCfg c) (hr : MReachable c m) {u v : Nat}
    (hu : u ∈ m.s.live) (hv : v ∈ m.s.live) : ¬ ReachP c.D u v :=
  (minv_reachable hc hr).core.no_ancestor_live hu hv

/-- non-vacuity: two live refs at once (the unordered nodes 1 and 2), reached with a mid-poll drop -/
example :
    let m := mexRun exDiamond_I (exMicroDiamond_M.take 11)
    MReachable exDiamond_I m ∧ 1 ∈ m.s.live ∧ 2 ∈ m.s.live :=
  ⟨mexRun_reachable (by decide), by decide, by decide⟩

/-- `micro_refines_atomic` with a continuation `as`, so that drop-free polls chain -/
theorem micro_refines_atomic_cont (c : Cfg) (m : MState) (hpc : m.pc = .idle)
    (hsd : m.s.streamDropped = false) (as : List MAction) :
    mrun c m (.pollBegin :: (List.replicate (m.s.doneQ.length + 1) .drainStep ++ (.readyStep :: as))) =
      mrun c (afterPoll c m.s) as := by
  rw [mrun_cons_some (mstep_pollBegin_iff.mpr ⟨hpc, hsd, rfl⟩),
    mrun_drain c m.result (.readyStep :: as) (m.s.doneQ.length + 1) { m.s with wake := false } rfl,
    mrun_cons_some (mstep_readyStep_iff.mpr ⟨rfl, rfl⟩)]
  rfl

/-- **refinement, one poll**: from an idle, undropped micro state the drop-free schedule
    `pollBegin ; drainStep^(|doneQ|+1) ; readyStep` is enabled and yields exactly `spoll c true m.s`:
    the same state (modulo `pc`/`result` and the ghost `lastPending`, which the atomic model sets in
    the wrapper `sipoll`) and the same result. -/
theorem micro_refines_atomic (c : Cfg) (m : MState) (hpc : m.pc = .idle) (hsd : m.s.streamDropped = false) :
    mrun c m (.pollBegin :: (List.replicate (m.s.doneQ.length + 1) .drainStep ++ [.readyStep])) =
      some { s := { (spoll c true m.s).1 with lastPending := decide ((spoll c true m.s).2 = .pending) },
             pc := .idle, result := some (spoll c true m.s).2 } :=
  micro_refines_atomic_cont c m hpc hsd []

/-- **refinement, whole runs**: a micro run of the plain stream in which every `drop` happens outside
    a poll is an atomic run: at every idle state the `SState` is (up to the wrapper's `im`) reachable
    in the atomic model. -/
theorem micro_atomic_run (hst : c.strat = .non) (hr : MReachableA c m) (hpc : m.pc = .idle) :
    ∃ s, SReachable c true s ∧ noIm m.s = noIm s := by
  obtain ⟨s, hrs, _, _, hw⟩ := msim_reachableA hst hr
  exact ⟨s, hrs, hw.of_idle hpc⟩

/-- non-vacuity: a disciplined run on the diamond (drops only between polls) ending idle -/
example :
    let m := mexRunA exDiamond_I
      [.pollBegin, .drainStep, .readyStep, .drop 0, .pollBegin, .drainStep, .drainStep, .readyStep,
       .pollBegin, .drainStep, .readyStep, .drop 2, .drop 1, .pollBegin, .drainStep, .drainStep, .drainStep,
       .readyStep]
    MReachableA exDiamond_I m ∧ exDiamond_I.strat = .non ∧ m.pc = .idle ∧ m.s.yielded = [0, 2, 1, 3] :=
  ⟨mexRunA_reachable (by decide), rfl, by decide, by decide⟩

/-- non-vacuity: on the diamond, with `doneQ = [2, 1]` pending, the drop-free poll needs 3 `drainStep`s -/
example :
    let m := mexRun exDiamond_I [.pollBegin, .drainStep, .readyStep, .drop 0, .pollBegin, .drainStep, .drainStep,
      .readyStep, .pollBegin, .drainStep, .readyStep, .drop 2, .drop 1]
    MReachable exDiamond_I m ∧ m.pc = .idle ∧ m.s.streamDropped = false ∧ m.s.doneQ = [2, 1] ∧
      mrun exDiamond_I m [.pollBegin, .drainStep, .drainStep, .drainStep, .readyStep] =
        some (afterPoll exDiamond_I m.s) ∧
      (spoll exDiamond_I true m.s).2 = .some 3 :=
  ⟨mexRun_reachable (by decide), by decide, by decide, by decide, by decide, by decide⟩

end FG
