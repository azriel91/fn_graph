/-
  Theorems/C12Eq.lean — determinism and inequality of builds (`==`).
-/
import FnGraphVerif.Theorems.Build
namespace FG

theorem eqGraph_refl (G : FnGraph) : eqGraph G G = true := by
  rw [eqGraph_true_iff]
  exact ⟨rfl, rfl, zip_all_eq_self _ (fun x => by simp) _⟩

/-- the accepted (logic/contains) edges are recoverable from the built edge list: they are its
    maximal `data`-free prefix, so equal built edge lists come from equal accepted edge lists -/
theorem user_edges_unique {b1 b2 : BState} (h1 : BReach b1) (h2 : BReach b2) {G1 G2 : FnGraph}
    (hb1 : build b1 = some G1) (hb2 : build b2 = some G2) (he : G1.graph.edges = G2.graph.edges) :
    b1.edges = b2.edges := by
  obtain ⟨_, _, ⟨D1, hD1, hd1⟩, hu1, _⟩ := build_sound h1 hb1
  obtain ⟨_, _, ⟨D2, hD2, hd2⟩, hu2, _⟩ := build_sound h2 hb2
  rw [hD1, hD2] at he
  exact prefix_unique (fun e : Edge => e.kind = .data) _ _ _ _ he hu1 hu2
    (fun e hm => (hd1 e hm).1) (fun e hm => (hd2 e hm).1)

/-- **C12** (determinism + inequality): two builds compare equal (`==`) exactly when the accepted
    builder states are the same — same functions, same accepted edges with the same kinds, in the
    same positions.  (Equal builds then have equal ranks because `build` is a function.) -/
theorem eqGraph_iff {b1 b2 : BState} (h1 : BReach b1) (h2 : BReach b2) {G1 G2 : FnGraph}
    (hb1 : build b1 = some G1) (hb2 : build b2 = some G2) :
    eqGraph G1 G2 = true ↔ b1 = b2 := by
  constructor
  · intro heq
    obtain ⟨hn, he, hd⟩ := (eqGraph_true_iff G1 G2).mp heq
    have s1 := build_sound h1 hb1
    have s2 := build_sound h2 hb2
    have hfns : b1.fns = b2.fns := by
      rw [s1.1, s2.1] at hd
      apply eq_of_zip_all _ _ _ _ _ hd
      · intro x y hxy; simpa using hxy
      · rw [← s1.2.1, ← s2.2.1]; exact hn
    have hedges := user_edges_unique h1 h2 hb1 hb2 he
    obtain ⟨f1, e1⟩ := b1
    obtain ⟨f2, e2⟩ := b2
    simp only at hfns hedges
    rw [hfns, hedges]
  · rintro rfl
    rw [hb1] at hb2
    cases hb2
    exact eqGraph_refl G1

/-- equal builds have equal ranks, counts and structures: they are the same value -/
theorem eqGraph_eq {b1 b2 : BState} (h1 : BReach b1) (h2 : BReach b2) {G1 G2 : FnGraph}
    (hb1 : build b1 = some G1) (hb2 : build b2 = some G2) (heq : eqGraph G1 G2 = true) : G1 = G2 := by
  have := (eqGraph_iff h1 h2 hb1 hb2).mp heq
  subst this
  rw [hb1] at hb2
  exact Option.some.inj hb2

theorem build_deterministic {b1 b2 : BState} (h : b1 = b2) : build b1 = build b2 := by
  rw [h]

/-- the example builder with the kind of its second edge changed by a later upsert -/
def exOps2_D2 : List Op := exOps_D2 ++ [.edge .logic 2 3]
def exB2_D2 : BState := exOps2_D2.foldl (fun b op => (applyOp b op).1) BState.empty
theorem exB2_reach_D2 : BReach exB2_D2 := breach_ops exOps2_D2 (by decide) BReach.empty

/-- the example builder with the two edges accepted in the other order -/
def exOps3_D2 : List Op :=
  [.addFn ⟨[], [1], 0⟩, .addFn ⟨[1], [], 1⟩, .addFn ⟨[], [2], 2⟩, .addFn ⟨[1], [2], 3⟩,
   .edge .contains 2 3, .edge .logic 0 2]
def exB3_D2 : BState := exOps3_D2.foldl (fun b op => (applyOp b op).1) BState.empty
theorem exB3_reach_D2 : BReach exB3_D2 := breach_ops exOps3_D2 (by decide) BReach.empty

-- same calls: equal; a different kind on one edge, or another edge order: not equal
example : eqGraph exG_D2 exG_D2 = true := (eqGraph_iff exB_reach_D2 exB_reach_D2 exG_build_D2 exG_build_D2).mpr rfl
/-- a reachable builder state other than `exB_D2` whose logic ranks are the same: its build exists
    (`build_total`), is not `==` (`eqGraph_iff`) and carries those ranks (`build_structs`); only the
    two hypotheses are evaluated -/
theorem exB_other_D2 {b : BState} (hb : BReach b) (hne : exB_D2 ≠ b)
    (hr : (rankCalc b.graph).map (·.ranks) = some exG_D2.ranks) :
    ∃ G, build b = some G ∧ eqGraph exG_D2 G = false ∧ exB_D2 ≠ b ∧ G.ranks = exG_D2.ranks := by
  obtain ⟨G, hG⟩ := build_total hb
  refine ⟨G, hG, Bool.eq_false_iff.mpr fun h => hne ((eqGraph_iff exB_reach_D2 hb exG_build_D2 hG).mp h), hne, ?_⟩
  obtain ⟨st, hst, hrk, _⟩ := (build_structs hb hG).2.2.2.2.2.2
  rw [hst] at hr
  rw [hrk]; exact Option.some.inj hr

example : ∃ G2, build exB2_D2 = some G2 ∧ eqGraph exG_D2 G2 = false ∧ exB_D2 ≠ exB2_D2 ∧ G2.ranks = exG_D2.ranks :=
  exB_other_D2 exB2_reach_D2 (by decide) (by decide)
example : ∃ G3, build exB3_D2 = some G3 ∧ eqGraph exG_D2 G3 = false ∧ exB_D2 ≠ exB3_D2 ∧ G3.ranks = exG_D2.ranks :=
  exB_other_D2 exB3_reach_D2 (by decide) (by decide)
example {G2 : FnGraph} (hb : build exB2_D2 = some G2) : eqGraph exG_D2 G2 = false := by
  have := eqGraph_iff exB_reach_D2 exB2_reach_D2 exG_build_D2 hb
  cases h : eqGraph exG_D2 G2 with
  | false => rfl
  | true => exact absurd (this.mp h) (by decide)
example : build exB_D2 = build (exOps_D2.foldl (fun b op => (applyOp b op).1) BState.empty) :=
  build_deterministic rfl

end FG
