/-
  Theorems/MonitorSound.lean — MONITOR SOUNDNESS: a trace accepted by the tracking monitor
  (`trackFut` / `trackRun`, non-coop sessions) IS a run of the model: when every note is `ok`, the
  monitor's state after the events is reached from its state before them by a run whose external
  actions (`finish`, `interrupt`) are exactly the external events, in order; everything else the
  monitor does on its own is internal.  Then what an accepted `q`, return or hand-out event says
  about the model state, as equal lists and values (the compared texts are injective).
-/
import FnGraphVerif.Proofs.MonitorText
import FnGraphVerif.Proofs.MonitorMoves
import FnGraphVerif.Proofs.CoopCounterexample
import FnGraphVerif.Theorems.C04
namespace FG

/-! the monitor's own moves are internal model actions (`Proofs/MonitorMoves.lean`) -/

example (c : Cfg) (p : PState → Bool) (k : Nat) (s : PState) :
    ∃ as, (∀ a ∈ as, a.isExternal = false) ∧ run c s as = some (advanceUntil c p k s).1 :=
  advanceUntil_run c p k s
example (c : Cfg) (s : PState) :
    ∃ as, (∀ a ∈ as, a.isExternal = false) ∧ run c s as = some (settle c s) := settle_run_notExternal c s
example (c : Cfg) (k : Nat) (s : PState) :
    ∃ as, (∀ a ∈ as, a.isExternal = false) ∧ run c s as = some (settleN c k s) := settleN_run_notExternal c k s

/-! the running example: the diamond `0 → 1 → 3`, `0 → 2 → 3` (`Proofs/ExampleStates.lean`), limit 2,
    errors collected, `PollNextN(1)`, a `*_control` API, not coop -/
def exX_P_P_P : MonCtx :=
  { c := exC_G (some 2), decls := [], userD := exD_G, rev := false, control := true,
    interruptible := false, coop := false }

def exT0_P_P_P : TrackSt := { s := init exX_P_P_P.c }

/-- the events before the return: `0`; then `2` and `1` concurrently; `1` ends, the interrupt
    signal is sent, `2` fails -/
def exTrace12_P_P_P : List Ev :=
  [.handout 0, .invoke 0, .q, .fin 0 true, .handout 2, .invoke 2, .handout 1, .invoke 1, .q,
   .fin 1 true, .intr, .fin 2 false]

/-- an accepted trace: … and the call returns `Interrupted`, `3` not processed, `Break` -/
def exTrace_P_P_P : List Ev := exTrace12_P_P_P ++ [.retOutcome false [0, 2, 1] [3] [2] "break"]

/- non-vacuity: `advanceUntil` really moves (it polls the scheduler until `0` is handed out),
   and it reports failure when the predicate cannot be reached -/
set_option maxRecDepth 100000 in
example : (advanceUntil exX_P_P_P.c (fun s => decide (0 < s.handedOut.length)) (trackFuel exX_P_P_P.c) (init exX_P_P_P.c)).1.handedOut = [0] ∧
    (advanceUntil exX_P_P_P.c (fun s => decide (0 < s.handedOut.length)) (trackFuel exX_P_P_P.c) (init exX_P_P_P.c)).2 = true ∧
    (advanceUntil exX_P_P_P.c (fun s => decide (3 ∈ s.invoked)) (trackFuel exX_P_P_P.c) (init exX_P_P_P.c)).2 = false := by
  decide


/-- `trackFut_sound` with the run split as internal actions ++ the event's external action (`intr` /
    `fin`; none for every other event) -/
theorem trackFut_sound_shape {x : MonCtx} {t : TrackSt} {e : Ev} (hcoop : x.coop = false)
    (hok : ∀ n ∈ (trackFut x t e).2, n.ok = true) :
    ∃ as, (∀ a ∈ as, a.isExternal = false) ∧
      run x.c t.s (as ++ e.external?.toList) = some (trackFut x t e).1.s := by
  -- an event without external action: what the monitor does is internal
  have internal : ∀ {s' : PState}, e.external? = none →
      (∃ as, (∀ a ∈ as, a.isExternal = false) ∧ run x.c t.s as = some s') →
      ∃ as, (∀ a ∈ as, a.isExternal = false) ∧ run x.c t.s (as ++ e.external?.toList) = some s' :=
    fun he ⟨as, has, hrun⟩ => ⟨as, has, by rw [he]; exact (List.append_nil as).symm ▸ hrun⟩
  -- an event the monitor does not replay
  have stay : ∃ as, (∀ a ∈ as, a.isExternal = false) ∧ run x.c t.s as = some t.s :=
    ⟨[], fun _ h => absurd h List.not_mem_nil, rfl⟩
  cases e with
  | intr =>
    refine ⟨[], fun _ h => absurd h List.not_mem_nil, ?_⟩
    rw [trackFut_intr]
    exact run_snoc (as := []) rfl (step_int x.c t.s)
  | fin f ok =>
    obtain ⟨as, has, hrun⟩ := finStart_run x t f
    exact ⟨as, has, run_snoc hrun (trackFut_fin_enabled hok)⟩
  | handout f =>
    rw [trackFut_handout_s, handoutAdv, handoutStart_noncoop hcoop]
    exact internal rfl (advanceUntil_run x.c _ (trackFuel x.c) t.s)
  | invoke f => exact internal rfl (invokeAdv_run x t f)
  | q => exact internal rfl (settle_run_notExternal x.c t.s)
  | retOutcome fnd p np errs fl => exact internal rfl (settle_run_notExternal x.c t.s)
  | retErr f => exact internal rfl (settle_run_notExternal x.c t.s)
  | panic => exact internal rfl stay
  | aborted => exact internal rfl stay
  | livelock => exact internal rfl stay
  | poll r => exact internal rfl stay
  | drop f w => exact internal rfl stay
  | other => exact internal rfl stay

/-- **Monitor soundness, one event**: an accepted event is a run of the model from the monitor's
    state before the event to its state after it; the run's external actions are exactly the
    event's external action (`finish` / `interrupt`), everything else the monitor did on its own is
    internal.  `hcoop` cannot be dropped: in coop sessions the hand-out event may reorder the ready
    queue, which is NOT a model action — `trackFut_sound_coop_counter` (`Proofs/CoopCounterexample.lean`) is an
    accepted coop event that no run of the model matches. -/
theorem trackFut_sound {x : MonCtx} {t : TrackSt} {e : Ev} (hcoop : x.coop = false)
    (hok : ∀ n ∈ (trackFut x t e).2, n.ok = true) :
    ∃ as, run x.c t.s as = some (trackFut x t e).1.s ∧
      as.filter Action.isExternal = e.external?.toList := by
  obtain ⟨as, has, hrun⟩ := trackFut_sound_shape hcoop hok
  refine ⟨_, hrun, ?_⟩
  rw [List.filter_append, List.filter_eq_nil_iff.mpr fun a ha => by simp [has a ha]]
  cases e <;> rfl

/- non-vacuity: accepted events in the running example — the first hand-out (internal actions
   only), a completion and the interrupt (exactly that external action); and a rejected event:
   `1` cannot end before it was handed out, the note is not `ok` -/
theorem exHandout0_ok : ∀ n ∈ (trackFut exX_P_P_P exT0_P_P_P (.handout 0)).2, n.ok = true := by decide
set_option maxRecDepth 100000 in
example : ∃ as, run exX_P_P_P.c exT0_P_P_P.s as = some (trackFut exX_P_P_P exT0_P_P_P (.handout 0)).1.s ∧
    as.filter Action.isExternal = [] :=
  trackFut_sound (x := exX_P_P_P) (e := .handout 0) rfl exHandout0_ok
set_option maxRecDepth 100000 in
example : ∃ as, run exX_P_P_P.c (trackRun exX_P_P_P exT0_P_P_P (exTrace12_P_P_P.take 3)).1.s as =
      some (trackFut exX_P_P_P (trackRun exX_P_P_P exT0_P_P_P (exTrace12_P_P_P.take 3)).1 (.fin 0 true)).1.s ∧
    as.filter Action.isExternal = [.finish 0 true] :=
  trackFut_sound (x := exX_P_P_P) (e := .fin 0 true) rfl (by decide)
example : ∃ as, run exX_P_P_P.c exT0_P_P_P.s as = some (trackFut exX_P_P_P exT0_P_P_P .intr).1.s ∧
    as.filter Action.isExternal = [.interrupt] :=
  trackFut_sound (x := exX_P_P_P) (e := .intr) rfl (by decide)
set_option maxRecDepth 100000 in
example : ¬ ∀ n ∈ (trackFut exX_P_P_P exT0_P_P_P (.fin 1 true)).2, n.ok = true := by decide
/- `hcoop` is needed -/
example : ∃ (x : MonCtx) (t : TrackSt) (e : Ev), x.coop = true ∧ Reachable x.c t.s ∧
    (∀ n ∈ (trackFut x t e).2, n.ok = true) ∧ ¬ ∃ as, run x.c t.s as = some (trackFut x t e).1.s :=
  trackFut_sound_coop_counter

/-- **Monitor soundness**: a trace accepted by the tracking monitor is a run of the model whose
    external actions are exactly the observed completions and interrupt signals, in order. -/
theorem track_sound {x : MonCtx} (hcoop : x.coop = false) {t : TrackSt} {evs : List Ev}
    (hok : ∀ n ∈ (trackRun x t evs).2, n.ok = true) :
    ∃ as, run x.c t.s as = some (trackRun x t evs).1.s ∧
      as.filter Action.isExternal = evs.filterMap Ev.external? := by
  induction evs generalizing t with
  | nil => exact ⟨[], rfl, rfl⟩
  | cons e es ih =>
    rw [trackRun_cons] at hok ⊢
    simp only at hok ⊢
    obtain ⟨as1, hrun1, hf1⟩ := trackFut_sound (e := e) hcoop (fun n hn => hok n (List.mem_append_left _ hn))
    obtain ⟨as2, hrun2, hf2⟩ := ih (t := (trackFut x t e).1) (fun n hn => hok n (List.mem_append_right _ hn))
    refine ⟨as1 ++ as2, ?_, ?_⟩
    · rw [run_append_of hrun1]; exact hrun2
    · rw [List.filter_append, hf1, hf2]
      cases e <;> rfl

theorem track_reachable {x : MonCtx} (hcoop : x.coop = false) {t : TrackSt} {evs : List Ev}
    (hok : ∀ n ∈ (trackRun x t evs).2, n.ok = true) (hr : Reachable x.c t.s) :
    Reachable x.c (trackRun x t evs).1.s := by
  obtain ⟨as, hrun, _⟩ := track_sound hcoop hok
  exact Reachable.of_run hr hrun

/-- an accepted trace started in the initial state: the monitor's final state is what the model
    reaches from `init` by a run with exactly the observed external actions -/
theorem track_sound_init {x : MonCtx} (hcoop : x.coop = false) {evs : List Ev}
    (hok : ∀ n ∈ (trackRun x { s := init x.c } evs).2, n.ok = true) :
    Reachable x.c (trackRun x { s := init x.c } evs).1.s ∧
    ∃ as, run x.c (init x.c) as = some (trackRun x { s := init x.c } evs).1.s ∧
      as.filter Action.isExternal = evs.filterMap Ev.external? :=
  ⟨track_reachable hcoop hok .init, track_sound hcoop hok⟩

/-- `TrackSt` has no `DecidableEq`; its fields have -/
theorem TrackSt.eq_of_fields {a b : TrackSt} (h : a.s = b.s ∧ a.realInvoked = b.realInvoked ∧
    a.realHandout = b.realHandout ∧ a.sawHandoutHook = b.sawHandoutHook) : a = b := by
  cases a; cases b; simp only [TrackSt.mk.injEq]; exact h

theorem trackRun_append_ok {x : MonCtx} {t t' t'' : TrackSt} {es fs : List Ev}
    (h1 : (trackRun x t es).1 = t' ∧ ∀ n ∈ (trackRun x t es).2, n.ok = true)
    (h2 : (trackRun x t' fs).1 = t'' ∧ ∀ n ∈ (trackRun x t' fs).2, n.ok = true) :
    (trackRun x t (es ++ fs)).1 = t'' ∧ ∀ n ∈ (trackRun x t (es ++ fs)).2, n.ok = true := by
  rw [trackRun_append, h1.1]
  exact ⟨h2.1, fun n hn => (List.mem_append.mp hn).elim (h1.2 n) (h2.2 n)⟩

/- The monitor after 4, 8 and all 12 events of the example trace, written out.  Each is evaluated
   once, from the literal before it; the examples below start from these instead of replaying the
   trace from `exT0_P_P_P`. -/
def exAfter4 : TrackSt :=
  { s := { counts := [0, 1, 1, 2], doneQ := [0], qRemaining := 4, sRemaining := 3, handedOut := [0],
           invoked := [0], endedOk := [0], im := { hp := true } },
    realInvoked := [0], realHandout := [0], sawHandoutHook := true }
def exAfter8 : TrackSt :=
  { s := { counts := [0, 0, 0, 2], released := [0], qRemaining := 3, sRemaining := 3, handedOut := [0, 2, 1],
           invoked := [0, 2, 1], inflight := [2, 1], endedOk := [0] },
    realInvoked := [0, 2, 1], realHandout := [0, 2, 1], sawHandoutHook := true }
def exAfter12 : TrackSt :=
  { s := { counts := [0, 0, 0, 2], doneQ := [1], doneTxOpen := false, released := [0], qRemaining := 3,
           sRemaining := 1, handedOut := [0, 2, 1], invoked := [0, 2, 1], endedOk := [0, 1], failed := [2],
           errors := [2], im := { sent := true } },
    realInvoked := [0, 2, 1], realHandout := [0, 2, 1], sawHandoutHook := true }

theorem exAfter4_eq : (trackRun exX_P_P_P exT0_P_P_P (exTrace12_P_P_P.take 4)).1 = exAfter4 ∧
    ∀ n ∈ (trackRun exX_P_P_P exT0_P_P_P (exTrace12_P_P_P.take 4)).2, n.ok = true :=
  ⟨TrackSt.eq_of_fields (by decide), by decide⟩
theorem exAfter8_eq : (trackRun exX_P_P_P exT0_P_P_P (exTrace12_P_P_P.take 8)).1 = exAfter8 ∧
    ∀ n ∈ (trackRun exX_P_P_P exT0_P_P_P (exTrace12_P_P_P.take 8)).2, n.ok = true := by
  rw [show exTrace12_P_P_P.take 8 =
    exTrace12_P_P_P.take 4 ++ [.handout 2, .invoke 2, .handout 1, .invoke 1] from rfl]
  exact trackRun_append_ok exAfter4_eq ⟨TrackSt.eq_of_fields (by decide), by decide⟩
theorem exAfter12_eq : (trackRun exX_P_P_P exT0_P_P_P exTrace12_P_P_P).1 = exAfter12 ∧
    ∀ n ∈ (trackRun exX_P_P_P exT0_P_P_P exTrace12_P_P_P).2, n.ok = true := by
  rw [show exTrace12_P_P_P = exTrace12_P_P_P.take 8 ++ [.q, .fin 1 true, .intr, .fin 2 false] from rfl]
  exact trackRun_append_ok exAfter8_eq ⟨TrackSt.eq_of_fields (by decide), by decide⟩
theorem exTrace12_result :
    (settle exX_P_P_P.c (trackRun exX_P_P_P exT0_P_P_P exTrace12_P_P_P).1.s).result = some (.outcome false [0, 2, 1] [3] [2]) := by
  rw [exAfter12_eq.1]
  decide
/- non-vacuity: the example trace (up to the return; the whole trace: `exTrace_ok_P_P_P` below) is
   accepted; the run the theorem yields has the external actions `finish 0 ok, finish 1 ok, interrupt,
   finish 2 err`; dropping an event (`handout 2`) makes the monitor reject -/
example : ∃ as, run exX_P_P_P.c (init exX_P_P_P.c) as = some (trackRun exX_P_P_P exT0_P_P_P exTrace12_P_P_P).1.s ∧
    as.filter Action.isExternal = [.finish 0 true, .finish 1 true, .interrupt, .finish 2 false] :=
  track_sound (x := exX_P_P_P) rfl exAfter12_eq.2
example : Reachable exX_P_P_P.c (trackRun exX_P_P_P exT0_P_P_P exTrace12_P_P_P).1.s :=
  track_reachable (x := exX_P_P_P) rfl exAfter12_eq.2 .init
set_option maxRecDepth 100000 in
example : ¬ ∀ n ∈ (trackRun exX_P_P_P exT0_P_P_P (exTrace12_P_P_P.eraseIdx 4)).2, n.ok = true := by
  rw [show exTrace12_P_P_P.eraseIdx 4 = exTrace12_P_P_P.take 4 ++ exTrace12_P_P_P.drop 5 from rfl,
    trackRun_append, exAfter4_eq.1, List.forall_mem_append]
  exact fun h => absurd h.2 (by decide)

/-- an accepted `q`, whatever the monitor's state: the settled model has not returned, has not
    panicked, has invoked exactly the observed starts in order, and has handed out the observed
    hand-outs when the hook events are compared -/
theorem track_q_gen {x : MonCtx} {t : TrackSt} (hok : ∀ n ∈ (trackFut x t .q).2, n.ok = true) :
    (settle x.c t.s).result = none ∧ (settle x.c t.s).panic = false ∧
    (settle x.c t.s).invoked = t.realInvoked ∧
    ((t.sawHandoutHook || t.realInvoked.isEmpty) = true → (settle x.c t.s).handedOut = t.realHandout) := by
  rw [trackFut_q_notes] at hok
  -- the notes are `[returned, invoked] ++ (handedOut, if compared) ++ [panic]`
  have cmp : ∀ {w m i}, Note.cmp "R-quiesce" w m i ∈ _ → m = i := fun h => Note.ok_cmp.mp (hok _ h)
  refine ⟨?_, toString_eq_false_iff.mp (cmp (List.mem_append_right _ List.mem_cons_self)),
    natsText_inj (cmp (List.mem_append_left _ (List.mem_append_left _
      (List.mem_cons_of_mem _ List.mem_cons_self)))), fun hh => ?_⟩
  · have := toString_eq_false_iff.mp
      (cmp (List.mem_append_left _ (List.mem_append_left _ List.mem_cons_self)))
    rwa [Option.isSome_eq_false_iff, Option.isNone_iff_eq_none] at this
  · rw [if_pos hh] at cmp
    exact natsText_inj (cmp (List.mem_append_left _ (List.mem_append_right _ List.mem_cons_self)))

/-- an accepted `q`: the model, run to quiescence, has not returned, has not panicked, and has
    invoked exactly the functions the implementation invoked, in the same order -/
theorem track_q {x : MonCtx} {t : TrackSt} (hc : GoodCfg x.c) (hr : Reachable x.c t.s)
    (hok : ∀ n ∈ (trackFut x t .q).2, n.ok = true) :
    Quiescent x.c (trackFut x t .q).1.s ∧ (trackFut x t .q).1.s.result = none ∧
    (trackFut x t .q).1.s.panic = false ∧
    natsText (trackFut x t .q).1.s.invoked = natsText t.realInvoked :=
  have h := track_q_gen hok
  ⟨settle_quiescent hc hr, h.1, h.2.1, congrArg natsText h.2.2.1⟩

/-- `track_q` with equality of lists, and the hand-out list when it is compared -/
theorem track_q_lists {x : MonCtx} {t : TrackSt} (hc : GoodCfg x.c) (hr : Reachable x.c t.s)
    (hok : ∀ n ∈ (trackFut x t .q).2, n.ok = true) :
    (trackFut x t .q).1.s = settle x.c t.s ∧
    Quiescent x.c (trackFut x t .q).1.s ∧ (trackFut x t .q).1.s.result = none ∧
    (trackFut x t .q).1.s.panic = false ∧
    (trackFut x t .q).1.s.invoked = t.realInvoked ∧
    ((t.sawHandoutHook || t.realInvoked.isEmpty) = true → (trackFut x t .q).1.s.handedOut = t.realHandout) :=
  have h := track_q_gen hok
  ⟨rfl, settle_quiescent hc hr, h.1, h.2.1, h.2.2.1, h.2.2.2⟩

/-- an accepted `ret` (outcome) event: the model, run to quiescence, has returned, and the text of
    its return value is the observed text with the errors sorted -/
theorem track_ret {x : MonCtx} {t : TrackSt} {fnd : Bool} {p np errs : List Nat} {fl : String}
    (hok : ∀ n ∈ (trackFut x t (.retOutcome fnd p np errs fl)).2, n.ok = true) :
    ∃ r, (trackFut x t (.retOutcome fnd p np errs fl)).1.s.result = some r ∧
      retText r x.control = (Ev.retOutcome fnd p np (errs.mergeSort (· ≤ ·)) fl).text := by
  rw [trackFut_retOutcome_notes] at hok
  exact returned_of_text (notReturned_ne_retOutcome _ _ _ _ _) (Note.ok_cmp.mp (hok _ List.mem_cons_self))

/-- decoded: the model returned an `outcome` with the observed state, processed and not-processed
    lists, the same errors up to order, and the observed control flow -/
theorem track_ret_outcome {x : MonCtx} {t : TrackSt} {fnd : Bool} {p np errs : List Nat} {fl : String}
    (hok : ∀ n ∈ (trackFut x t (.retOutcome fnd p np errs fl)).2, n.ok = true) :
    ∃ errs', (trackFut x t (.retOutcome fnd p np errs fl)).1.s.result = some (.outcome fnd p np errs') ∧
      errs'.mergeSort (· ≤ ·) = errs.mergeSort (· ≤ ·) ∧ errs'.Perm errs ∧
      fl = flowText (.outcome fnd p np errs') x.control := by
  obtain ⟨r, hres, htext⟩ := track_ret hok
  cases r with
  | err g =>
    rw [retText_err] at htext
    exact absurd htext (retErr_text_ne_retOutcome _ _ _ _ _ _)
  | outcome fnd' p' np' errs' =>
    rw [retText_outcome] at htext
    obtain ⟨rfl, rfl, rfl, he, hfl⟩ := retOutcome_text_inj htext
    refine ⟨errs', hres, he, ?_, hfl.symm⟩
    exact ((List.mergeSort_perm errs' _).symm.trans (he ▸ List.mergeSort_perm errs _))

/-- conversely: exactly those return events are accepted -/
theorem trackFut_retOutcome_accepts {x : MonCtx} {t : TrackSt} {fnd : Bool} {p np errs errs' : List Nat}
    (hres : (settle x.c t.s).result = some (.outcome fnd p np errs'))
    (he : errs'.mergeSort (· ≤ ·) = errs.mergeSort (· ≤ ·)) :
    ∀ n ∈ (trackFut x t (.retOutcome fnd p np errs (flowText (.outcome fnd p np errs') x.control))).2,
      n.ok = true := by
  intro n hn
  rw [trackFut_retOutcome_notes, hres] at hn
  rw [List.mem_singleton.mp hn]
  apply Note.ok_cmp.mpr
  simp only
  rw [retText_outcome, he]

/-- an accepted `ret err f`: the model returned `Err` of the same function -/
theorem track_retErr {x : MonCtx} {t : TrackSt} {f : Nat}
    (hok : ∀ n ∈ (trackFut x t (.retErr f)).2, n.ok = true) :
    (trackFut x t (.retErr f)).1.s.result = some (.err f) ∧
      retText (.err f) x.control = (Ev.retErr f).text := by
  rw [trackFut_retErr_notes] at hok
  rw [trackFut_retErr_s]
  obtain ⟨r, hres, h⟩ := returned_of_text (notReturned_ne_retErr f) (Note.ok_cmp.mp (hok _ List.mem_cons_self))
  rw [hres]
  cases r with
  | err g =>
    rw [retText_err] at h
    rw [retErr_text_inj h]
    exact ⟨rfl, rfl⟩
  | outcome fnd' p' np' errs' =>
    rw [retText_outcome] at h
    exact absurd h.symm (retErr_text_ne_retOutcome _ _ _ _ _ _)

/-- the state after a `retOutcome` event (accepted or not) is reachable and quiescent: it is the settled
    state -/
theorem track_ret_quiescent {x : MonCtx} {t : TrackSt} {fnd : Bool} {p np errs : List Nat} {fl : String}
    (hc : GoodCfg x.c) (hr : Reachable x.c t.s) :
    Quiescent x.c (trackFut x t (.retOutcome fnd p np errs fl)).1.s ∧
    Reachable x.c (trackFut x t (.retOutcome fnd p np errs fl)).1.s :=
  ⟨settle_quiescent hc hr, settle_reachable hr⟩

/- non-vacuity: the second `q` of the example trace (after 8 events: `2` and `1` in flight)
   and its final `ret` (after 12 events) -/
theorem exT8_reach_P_P_P : Reachable exX_P_P_P.c (trackRun exX_P_P_P exT0_P_P_P (exTrace12_P_P_P.take 8)).1.s :=
  track_reachable (x := exX_P_P_P) rfl exAfter8_eq.2 .init
set_option maxRecDepth 100000 in
example : (trackFut exX_P_P_P (trackRun exX_P_P_P exT0_P_P_P (exTrace12_P_P_P.take 8)).1 .q).1.s.invoked = [0, 2, 1] ∧
    Quiescent exX_P_P_P.c (trackFut exX_P_P_P (trackRun exX_P_P_P exT0_P_P_P (exTrace12_P_P_P.take 8)).1 .q).1.s := by
  have hr := exT8_reach_P_P_P
  rw [exAfter8_eq.1] at hr ⊢
  have h := track_q_lists (x := exX_P_P_P) (exC_good_G _) hr (by decide)
  exact ⟨h.2.2.2.2.1, h.2.1⟩
set_option maxRecDepth 100000 in
example : ∃ errs', (trackFut exX_P_P_P (trackRun exX_P_P_P exT0_P_P_P exTrace12_P_P_P).1
      (.retOutcome false [0, 2, 1] [3] [2] "break")).1.s.result = some (.outcome false [0, 2, 1] [3] errs') ∧
    errs'.mergeSort (· ≤ ·) = [2].mergeSort (· ≤ ·) ∧ errs'.Perm [2] ∧
    "break" = flowText (.outcome false [0, 2, 1] [3] errs') exX_P_P_P.control :=
  track_ret_outcome (x := exX_P_P_P) (trackFut_retOutcome_accepts (x := exX_P_P_P) (errs := [2]) (errs' := [2]) exTrace12_result rfl)
/- a `q` after the call has returned, and a wrong outcome, are rejected -/
set_option maxRecDepth 100000 in
example : ¬ ∀ n ∈ (trackFut exX_P_P_P (trackRun exX_P_P_P exT0_P_P_P exTrace12_P_P_P).1 .q).2, n.ok = true := by
  rw [exAfter12_eq.1]
  decide
set_option maxRecDepth 100000 in
example : ¬ ∀ n ∈ (trackFut exX_P_P_P (trackRun exX_P_P_P exT0_P_P_P exTrace12_P_P_P).1
    (.retOutcome true [0, 2, 1, 3] [] [] "cont")).2, n.ok = true := by
  rw [exAfter12_eq.1]
  decide
/- the whole example trace is accepted, and is a run of the model from `init` to the returned state -/
theorem exTrace_ok_P_P_P : ∀ n ∈ (trackRun exX_P_P_P exT0_P_P_P exTrace_P_P_P).2, n.ok = true := by
  rw [exTrace_P_P_P, trackRun_append, trackRun_singleton]
  intro n hn
  rcases List.mem_append.mp hn with hn | hn
  · exact exAfter12_eq.2 n hn
  · exact trackFut_retOutcome_accepts (x := exX_P_P_P) (errs := [2]) exTrace12_result rfl n hn
example : ∃ as, run exX_P_P_P.c (init exX_P_P_P.c) as = some (trackRun exX_P_P_P exT0_P_P_P exTrace_P_P_P).1.s ∧
    as.filter Action.isExternal = [.finish 0 true, .finish 1 true, .interrupt, .finish 2 false] :=
  track_sound (x := exX_P_P_P) rfl exTrace_ok_P_P_P
example : (trackRun exX_P_P_P exT0_P_P_P exTrace_P_P_P).1.s.result = some (.outcome false [0, 2, 1] [3] [2]) := by
  rw [exTrace_P_P_P, trackRun_append, trackRun_singleton]
  exact exTrace12_result
/- `track_retErr`: `try_fold` on the chain-free graph of two functions, `1` fails -/
def exXerr_P_P_P : MonCtx :=
  { c := { coopC_P with sequential := true, errMode := .shortCircuit }, decls := [], userD := ⟨2, []⟩,
    rev := false, control := false, interruptible := false, coop := false }
def exTraceErr_P_P_P : List Ev := [.handout 1, .invoke 1, .q, .fin 1 false]
set_option maxRecDepth 100000 in
example : (trackFut exXerr_P_P_P (trackRun exXerr_P_P_P { s := init exXerr_P_P_P.c } exTraceErr_P_P_P).1 (.retErr 1)).1.s.result
    = some (.err 1) :=
  (track_retErr (x := exXerr_P_P_P) (by decide)).1

/-- an accepted hand-out event: `advanceUntil` found a state with a longer hand-out list, and the
    new part of that list is exactly `[f]`: the note compares `natsText (new part)` with `toString f`,
    and `natsText` is injective.  Holds in coop sessions as well. -/
theorem track_handout_gen {x : MonCtx} {t : TrackSt} {f : Nat}
    (hok : ∀ n ∈ (trackFut x t (.handout f)).2, n.ok = true) :
    (handoutAdv x t f).2 = true ∧
    (trackFut x t (.handout f)).1.s.handedOut = t.s.handedOut ++ [f] := by
  rw [trackFut_handout_notes] at hok
  rw [trackFut_handout_s]
  have h := Note.ok_cmp.mp (hok _ List.mem_cons_self)
  cases hb : (handoutAdv x t f).2 with
  | false =>
    rw [hb] at h
    exact absurd h (toString_nat_ne_noneEnabled f)
  | true =>
    rw [hb] at h
    simp only [if_true] at h
    have hd := natsText_eq_toString h
    have hp1 := handoutStart_handedOut_prefix x t f
    have hp2 : (handoutStart x t f).handedOut <+: (handoutAdv x t f).1.handedOut :=
      advanceUntil_handedOut_prefix _ _ _ _
    obtain ⟨r1, hr1⟩ := hp1
    obtain ⟨r2, hr2⟩ := hp2
    have hall : (handoutAdv x t f).1.handedOut = t.s.handedOut ++ (r1 ++ r2) := by
      rw [← hr2, ← hr1, List.append_assoc]
    rw [hall, List.drop_left] at hd
    exact ⟨rfl, by rw [hall, hd]⟩

/-- non-coop sessions: the monitor advanced from its own state `t.s`, and an accepted hand-out
    event `f` means the model's next hand-out (after internal actions only) is exactly `f` -/
theorem track_handout {x : MonCtx} {t : TrackSt} {f : Nat} (hcoop : x.coop = false)
    (hok : ∀ n ∈ (trackFut x t (.handout f)).2, n.ok = true) :
    handoutStart x t f = t.s ∧
    (trackFut x t (.handout f)).1.s.handedOut = (handoutStart x t f).handedOut ++ [f] ∧
    (trackFut x t (.handout f)).1.s.handedOut = t.s.handedOut ++ [f] ∧
    (trackFut x t (.handout f)).1.realHandout = t.realHandout ++ [f] := by
  have h := (track_handout_gen hok).2
  refine ⟨handoutStart_noncoop hcoop t f, ?_, h, rfl⟩
  rw [handoutStart_noncoop hcoop]
  exact h

/- non-vacuity: the hand-outs `0` (from the initial state) and `1` (after 6 events) of the
   example trace; the model would hand out `2` first, so `handout 1` in its place is rejected -/
set_option maxRecDepth 100000 in
example : (trackFut exX_P_P_P exT0_P_P_P (.handout 0)).1.s.handedOut = [] ++ [0] :=
  (track_handout (x := exX_P_P_P) rfl exHandout0_ok).2.2.1
set_option maxRecDepth 100000 in
example : (trackFut exX_P_P_P (trackRun exX_P_P_P exT0_P_P_P (exTrace12_P_P_P.take 6)).1 (.handout 1)).1.s.handedOut = [0, 2, 1] := by
  rw [show exTrace12_P_P_P.take 6 = exTrace12_P_P_P.take 4 ++ [.handout 2, .invoke 2] from rfl,
    trackRun_append, exAfter4_eq.1]
  exact (track_handout (x := exX_P_P_P) rfl (by decide)).2.2.1.trans (by decide)
set_option maxRecDepth 100000 in
example : ¬ ∀ n ∈ (trackFut exX_P_P_P (trackRun exX_P_P_P exT0_P_P_P (exTrace12_P_P_P.take 4)).1 (.handout 1)).2, n.ok = true := by
  rw [exAfter4_eq.1]
  decide

end FG
