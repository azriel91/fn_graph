/-
  Runs that are handed an `InterruptibilityState` which was used by an earlier run (`reborrow()`):
  the run starts from `initWith c s0 r0 k0`, i.e. with `im := { sent := s0, recv := r0, cnt := k0 }`
  (a signal still in the channel, a signal already received, polls already counted); `sig`, `hp`,
  `ipc`, `ian` belong to the per-run `InterruptibleStream` and start `false`.  Safety carries over
  because `Inv0` does not mention `im`, liveness because `LInv` reads the carried fields only
  through `IM.Ok`; C08 becomes a bound by `carriedBudget`, for the run and for the interruptible
  stream (`sinitWith`).
-/
import FnGraphVerif.Theorems.C04
import FnGraphVerif.Theorems.RunSafety
import FnGraphVerif.Theorems.C08
import FnGraphVerif.Proofs.IntrDelete
namespace FG

variable {c : Cfg} {s : PState} {s0 r0 : Bool} {k0 : Nat}

/-- the diamond 0→1, 0→2, 1→3, 2→3 with an interrupt strategy -/
def exDia_T (st : Strat) : Cfg := { exCfg_F with strat := st }
theorem exDia_good_T (st : Strat) : GoodCfg (exDia_T st) := exCfg_good_F _ rfl rfl

/-- **C02** (and the core of C01) for runs with carried interrupt state -/
theorem handout_after_ancestorsW (hc : GoodCfg c) (hr : ReachableW c s0 r0 k0 s) {u v : Nat}
    (hv : v ∈ s.readyQ ∨ v ∈ s.handedOut ∨ s.dropped = some v) (huv : ReachP c.D u v) :
    u ∈ s.endedOk :=
  (inv0_reachableW hc hr).ancestors_ended hv huv

/-- **C01** (run half) for runs with carried interrupt state -/
theorem no_ancestor_inflightW (hc : GoodCfg c) (hr : ReachableW c s0 r0 k0 s) {u v : Nat}
    (hu : u ∈ s.inflight) (hv : v ∈ s.inflight) : ¬ ReachP c.D u v :=
  (inv0_reachableW hc hr).no_ancestor_inflight hu hv

/-- **C02**: a done id is only ever sent for a function that returned successfully -/
theorem done_only_after_endW (hc : GoodCfg c) (hr : ReachableW c s0 r0 k0 s) {x : Nat}
    (hx : x ∈ s.released ∨ x ∈ s.doneQ) : x ∈ s.endedOk ∧ x ∉ s.inflight :=
  (inv0_reachableW hc hr).done_ended hx

/-- **C03**: nothing is queued or handed out twice -/
theorem handout_nodupW (hc : GoodCfg c) (hr : ReachableW c s0 r0 k0 s) :
    (s.readyQ ++ s.handedOut ++ s.dropped.toList).Nodup :=
  (inv0_reachableW hc hr).queueNodup

/-- **C03**: the closure is invoked at most once per function, and only for handed-out functions -/
theorem invoked_nodupW (hc : GoodCfg c) (hr : ReachableW c s0 r0 k0 s) :
    s.invoked.Nodup ∧ ∀ f ∈ s.invoked, f ∈ s.handedOut :=
  ⟨(inv0_reachableW hc hr).invNodup, (inv0_reachableW hc hr).invHanded⟩

/-- **C03 / C04**: no `expect`, `usize` underflow, `try_write` failure, full channel -/
theorem no_panicW (hc : GoodCfg c) (hr : ReachableW c s0 r0 k0 s) : s.panic = false :=
  (inv0_reachableW hc hr).noPanic

/-- **C10**: at most `limit` functions in flight (`fold*`: at most one) -/
theorem inflight_le_limitW (hc : GoodCfg c) (hr : ReachableW c s0 r0 k0 s) :
    (c.sequential = true → s.inflight.length ≤ 1) ∧
    (c.sequential = false → ∀ l, c.limit = some (l + 1) → s.inflight.length ≤ l + 1) :=
  ⟨(inv0_reachableW hc hr).limSeq, (inv0_reachableW hc hr).limPar⟩

/-- **C07**: nothing ordered after a failed function is ever queued or handed out -/
theorem no_successor_of_failedW (hc : GoodCfg c) (hr : ReachableW c s0 r0 k0 s) {f v : Nat}
    (hf : f ∈ s.failed) (hfv : ReachP c.D f v) : v ∉ s.handedOut ∧ v ∉ s.readyQ :=
  (inv0_reachableW hc hr).no_successor_of_failed hf hfv

/-- **C04 / C07**: a call that returned an outcome has nothing in flight -/
theorem return_no_inflightW (hc : GoodCfg c) (hr : ReachableW c s0 r0 k0 s) {fin : Bool}
    {p np errs : List Nat} (h : s.result = some (.outcome fin p np errs)) : s.inflight = [] :=
  (inv0_reachableW hc hr).outcome_no_inflight h

/-- **C04** with `ApiOk`, carried start: when the call has returned nothing is in flight -/
theorem return_no_inflight_allW (hc : GoodCfg c) (hapi : c.ApiOk) (hr : ReachableW c s0 r0 k0 s)
    (h : s.result.isSome = true) : s.inflight = [] :=
  (inv_reachableW hc hapi hr).return_no_inflight h

/-- a clean run of the diamond up to the hand-out of the sink 3, with `IgnoreInterruptions`, a
    signal in the channel, one received earlier and 2 polls counted -/
example : ∃ s, ReachableW (exDia_T .ignore) true true 2 s ∧ s.handedOut = [0, 2, 1, 3] ∧
    s.im.cnt = 6 ∧ 0 ∈ s.endedOk ∧ (s.readyQ ++ s.handedOut ++ s.dropped.toList).Nodup ∧
    s.panic = false := by
  obtain ⟨s, hr, hp⟩ := reachableW_of_any (c := exDia_T .ignore) (s0 := true) (r0 := true) (k0 := 2)
    (as := exT1_F) (p := fun s => s.handedOut == [0, 2, 1, 3] && s.im.cnt == 6) (by decide)
  simp only [Bool.and_eq_true, beq_iff_eq] at hp
  have h3 : 3 ∈ s.handedOut := by rw [hp.1]; simp
  exact ⟨s, hr, hp.1, hp.2,
    handout_after_ancestorsW (exDia_good_T _) hr (Or.inr (Or.inl h3)) ex_reach03,
    handout_nodupW (exDia_good_T _) hr, no_panicW (exDia_good_T _) hr⟩

/-- the two middle functions of the diamond are in flight together in a run with carried state
    (`PollNextN(5)`, signal received earlier, 1 poll counted: budget 3) -/
example : ∃ s, ReachableW (exDia_T (.pollN 5)) false true 1 s ∧ 2 ∈ s.inflight ∧ 1 ∈ s.inflight ∧
    ¬ ReachP (exDia_T (.pollN 5)).D 2 1 ∧ s.inflight.length ≤ 2 := by
  obtain ⟨s, hr, hp⟩ := reachableW_of_any (c := exDia_T (.pollN 5)) (s0 := false) (r0 := true) (k0 := 1)
    (as := exT1_F.take 6) (p := fun s => decide (2 ∈ s.inflight) && decide (1 ∈ s.inflight) &&
      decide (s.inflight.length ≤ 2)) (by decide)
  simp only [Bool.and_eq_true, decide_eq_true_eq] at hp
  exact ⟨s, hr, hp.1.1, hp.1.2, no_ancestor_inflightW (exDia_good_T _) hr hp.1.1 hp.1.2, hp.2⟩

/-- C10 with carried state: `limit = 1` on the diamond -/
example : ∃ s, ReachableW { exDia_T .ignore with limit := some 1 } true false 0 s ∧ s.readyQ = [1] ∧
    s.inflight = [2] ∧ s.inflight.length ≤ 1 := by
  obtain ⟨s, hr, hp⟩ := reachableW_of_any (c := { exDia_T .ignore with limit := some 1 })
    (s0 := true) (r0 := false) (k0 := 0)
    (as := exT1_F.take 5) (p := fun s => s.readyQ == [1] && s.inflight == [2]) (by decide)
  simp only [Bool.and_eq_true, beq_iff_eq] at hp
  exact ⟨s, hr, hp.1, hp.2, (inflight_le_limitW (exCfg_good_F _ rfl rfl) hr).2 rfl 0 rfl⟩

theorem settle_reachableW (hr : ReachableW c s0 r0 k0 s) : ReachableW c s0 r0 k0 (settle c s) :=
  settleN_reachableFrom _ hr

theorem settle_quiescentW (hc : GoodCfg c) (hr : ReachableW c s0 r0 k0 s) : Quiescent c (settle c s) :=
  settle_quiescent_of_inv hc (inv0_reachableW hc hr)

/-- **C04** (deadlock freedom) for runs with carried interrupt state: quiescent and nothing in
    flight ⇒ the call has returned -/
theorem deadlock_freeW (hc : GoodCfg c) (hr : ReachableW c s0 r0 k0 s) (hq : Quiescent c s)
    (hi : s.inflight = []) : s.result.isSome = true :=
  deadlock_free_of_inv hc (.of_reachableW hc hr) hq hi

/-- **C04 / C10**: from every state of such a run, letting the in-flight functions complete and
    running the internal actions makes the call return -/
theorem eventually_returnsW (hc : GoodCfg c) (hr : ReachableW c s0 r0 k0 s) :
    ∃ as s', (∀ a ∈ as, a ≠ .interrupt ∧ ∀ f, a ≠ .finish f false) ∧ run c s as = some s' ∧
      s'.result.isSome = true :=
  eventually_returns_of_inv hc (.of_reachableW hc hr)

/-- **C03**: a run with carried state that returned without a signal being received (so `r0 = false`
    and the pending one, if any, was never looked at) and without a failure handed out everything -/
theorem clean_return_allW (hc : GoodCfg c) (hr : ReachableW c s0 r0 k0 s) {r : Ret}
    (h : s.result = some r) (hni : s.im.recv = false) (hf : s.failed = []) :
    s.handedOut.Perm (List.range c.n) :=
  clean_return_all_of_inv (.of_reachableW hc hr) h hni hf

/- non-vacuity: `FinishCurrent` on the diamond with a signal received by an earlier run.  The
   initial state is not quiescent; `settle` polls once (`Interrupted(None)`), ends the stream, the
   scheduler and the queuer, and returns `NotFinished` with nothing processed. -/
set_option maxRecDepth 100000 in
example : ¬ Quiescent (exDia_T .finish) (initWith (exDia_T .finish) false true 1) ∧
    (settle (exDia_T .finish) (initWith (exDia_T .finish) false true 1)).inflight = [] ∧
    (settle (exDia_T .finish) (initWith (exDia_T .finish) false true 1)).result =
      some (.outcome false [] [0, 1, 2, 3] []) := by decide
example : Quiescent (exDia_T .finish) (settle (exDia_T .finish) (initWith (exDia_T .finish) false true 1)) :=
  settle_quiescentW (exDia_good_T _) .refl
set_option maxRecDepth 100000 in
example : (settle (exDia_T .finish) (initWith (exDia_T .finish) false true 1)).result.isSome = true :=
  deadlock_freeW (exDia_good_T _) (settle_reachableW .refl) (settle_quiescentW (exDia_good_T _) .refl)
    (by decide)
/- `PollNextN(3)`, signal received earlier, 1 poll counted (budget 1): the root runs, then the
   run is quiescent with the root in flight and has (rightly) not returned -/
set_option maxRecDepth 100000 in
example : (settle (exDia_T (.pollN 3)) (initWith (exDia_T (.pollN 3)) false true 1)).inflight = [0] ∧
    (settle (exDia_T (.pollN 3)) (initWith (exDia_T (.pollN 3)) false true 1)).result = none := by decide
example : ∃ as s', (∀ a ∈ as, a ≠ .interrupt ∧ ∀ f, a ≠ .finish f false) ∧
    run (exDia_T (.pollN 3)) (initWith (exDia_T (.pollN 3)) false true 1) as = some s' ∧
    s'.result.isSome = true :=
  eventually_returnsW (exDia_good_T _) .refl

/-- along a run from a carried start, every interrupting strategy: a signal is in and nothing is
    parked, so the hand-outs stay within `carriedBudget`.  `budI = 0` is carried only because it
    yields `≠ .intSome`, which `step_dropped` needs: nothing is swallowed. -/
theorem carried_inv {n : Nat} (hst : c.strat.lim = some n) (h0 : r0 = true ∨ s0 = true)
    (hr : ReachableW c s0 r0 k0 s) :
    (Within (IM.bud n) (max n 1) (carriedBudget n r0 k0) s.im true s.handedOut.length ∧
      (s.im.recv = true ∨ s.im.sent = true) ∧ s.im.budI n = 0) ∧
    s.dropped = none ∧ s.closeAfter = none := by
  induction hr with
  | refl => exact ⟨⟨within_sent h0 (Nat.le_of_eq (bud_carried n s0 r0 k0)), h0, rfl⟩, rfl, rfl⟩
  | @step s s' a _ h ih =>
    obtain ⟨i1, i2, i3⟩ := ih
    obtain ⟨d1, d2⟩ := step_dropped h (fun _ => (budI_zero_poll hst i1.2.1 i1.2.2 _).2)
    exact ⟨(drives_proto c).ghost_sent
      ((((potItem hst).mono Out.handsOut_isItem).ghost _).and (ghostBudI hst _)) h i1,
      d1.trans i2, d2.trans i3⟩

/-- **C08** (carried state, `PollNextN(n)`): with a signal received by an earlier run (`r0`) or still
    in the channel (`s0`) the run hands out at most `carriedBudget n r0 k0` functions
    (`n - (k0 + 1)` when `r0`, `n - k0` when only `s0`), never answers `Interrupted(Some _)`,
    so nothing is swallowed and the bound does not depend on `interrupted_next_item_include`. -/
theorem carried_pollN_bound {n : Nat} (hst : c.strat = .pollN n) (h0 : r0 = true ∨ s0 = true)
    (hr : ReachableW c s0 r0 k0 s) :
    s.handedOut.length ≤ carriedBudget n r0 k0 ∧ s.dropped = none ∧ s.closeAfter = none := by
  obtain ⟨h1, h2, h3⟩ := carried_inv (n := n) (by rw [hst]; rfl) h0 hr
  exact ⟨h1.1.le, h2, h3⟩

theorem carried_pollN_bound_recv {n : Nat} (hst : c.strat = .pollN n)
    (hr : ReachableW c s0 true k0 s) : s.handedOut.length ≤ n - (k0 + 1) := by
  have := (carried_pollN_bound hst (Or.inl rfl) hr).1
  simpa [carriedBudget] using this

theorem carried_pollN_bound_sent {n : Nat} (hst : c.strat = .pollN n)
    (hr : ReachableW c true false k0 s) : s.handedOut.length ≤ n - k0 := by
  have := (carried_pollN_bound hst (Or.inr rfl) hr).1
  simpa [carriedBudget] using this

/-- **C08** (carried state, the signal already pending when the call begins): `FinishCurrent` and
    `PollNextN(0)` start nothing -/
theorem carried_finish_nothing (hst : c.strat = .finish ∨ c.strat = .pollN 0)
    (h0 : r0 = true ∨ s0 = true) (hr : ReachableW c s0 r0 k0 s) :
    s.handedOut = [] ∧ s.dropped = none ∧ s.closeAfter = none := by
  obtain ⟨h1, h2⟩ := carried_inv (n := 0) (Strat.lim_zero hst) h0 hr
  exact ⟨List.eq_nil_of_length_eq_zero (Nat.le_zero.mp (carriedBudget_zero r0 k0 ▸ h1.1.le)), h2⟩

/-- once the carried count has reached `n` (`k0 + 1 ≥ n` after a reception, `k0 ≥ n` otherwise)
    `PollNextN(n)` starts nothing either -/
theorem carried_pollN_exhausted {n : Nat} (hst : c.strat = .pollN n) (h0 : r0 = true ∨ s0 = true)
    (hk : n ≤ k0 + (if r0 then 1 else 0)) (hr : ReachableW c s0 r0 k0 s) : s.handedOut = [] := by
  have h1 := (carried_pollN_bound hst h0 hr).1
  apply List.eq_nil_of_length_eq_zero
  unfold carriedBudget at h1
  cases r0 <;> simp at h1 hk <;> omega

/-- **C08** (signal already pending when the call begins): `FinishCurrent` / `PollNextN(0)` hand out
    nothing, `PollNextN(n)` at most `n` -/
theorem presignalled_bound (c : Cfg) (as : List Action) {s : PState}
    (h : run c (init c) (.interrupt :: as) = some s) :
    (c.strat = .finish ∨ c.strat = .pollN 0 → s.handedOut = []) ∧
    (∀ k, c.strat = .pollN (k + 1) → s.handedOut.length ≤ k + 1) := by
  have hr : ReachableW c true false 0 s :=
    ReachableFrom.of_run .refl (h : run c (initWith c true false 0) as = some s)
  exact ⟨fun hst => (carried_finish_nothing hst (.inr rfl) hr).1,
    fun k hk => carried_pollN_bound_sent hk hr⟩

/-- non-vacuity: such runs exist; `PollNextN(2)` attains its bound, `FinishCurrent` hands out nothing -/
example : (run (exWide_H (.pollN 2) true) (init (exWide_H (.pollN 2) true))
    [.interrupt, .schedPoll, .schedPoll, .schedPoll]).map (·.handedOut) = some [2, 1] := by decide
example : (run (exWide_H .finish true) (init (exWide_H .finish true))
    [.interrupt, .schedPoll, .schedPoll]).map (·.handedOut) = some [] := by decide

/-- and when the call returns, it returns nothing processed, everything not processed, no error
    (`Finished` only for the empty graph) -/
theorem carried_finish_outcome (hc : GoodCfg c) (hst : c.strat = .finish ∨ c.strat = .pollN 0)
    (h0 : r0 = true ∨ s0 = true) (hr : ReachableW c s0 r0 k0 s) {r : Ret} (h : s.result = some r) :
    r = .outcome (c.n == 0) [] (List.range c.n) [] := by
  have hinv := inv0_reachableW hc hr
  obtain ⟨hho, _, _⟩ := carried_finish_nothing hst h0 hr
  -- nothing was handed out, so nothing ended
  have hnone : ∀ f, ¬(f ∈ s.endedOk ∨ f ∈ s.failed) := fun f hf => by
    have := hinv.endedHanded f hf
    rw [hho] at this; cases this
  have hf : s.failed = [] := List.eq_nil_iff_forall_not_mem.mpr fun f hf => hnone f (.inr hf)
  have he : s.endedOk = [] := List.eq_nil_iff_forall_not_mem.mpr fun f hf => hnone f (.inl hf)
  have hse : s.shortErr = none := by
    cases hs : s.shortErr with
    | none => rfl
    | some f =>
      have hl := linv_reachableW hc hr
      exact absurd hf (hl.shortFailed (by rw [hs]; rfl))
  have hr' := (hinv.ret0 r h).2.2.1 hse
  have hsr : s.sRemaining = c.n := by
    have := hinv.sRem
    rw [he, hf] at this
    simpa using this
  have herr : s.errors = [] := by
    have := hinv.errs; rw [hf] at this; simpa using this
  rw [hr', mkRet_noShort hse, hho, hsr, herr]
  simp

/- non-vacuity / exactness on the wide graph (roots 0, 1, 2; 0 → 3): the bounds are attained -/
/-- `r0`, `k0 = 0`, `PollNextN(3)`: budget `3 - 1 = 2`, two hand-outs, the third poll interrupts -/
example : (run (exWide_H (.pollN 3) true) (initWith (exWide_H (.pollN 3) true) false true 0)
    [.schedPoll, .schedPoll, .schedPoll, .schedPoll]).map (fun s => (s.handedOut, s.im.ian, s.streamEnded))
    = some ([2, 1], true, true) ∧ carriedBudget 3 true 0 = 2 := by decide
/-- only `s0`, `k0 = 1`, `PollNextN(3)`: budget `3 - 1 = 2` -/
example : (run (exWide_H (.pollN 3) true) (initWith (exWide_H (.pollN 3) true) true false 1)
    [.schedPoll, .schedPoll, .schedPoll, .schedPoll]).map (fun s => (s.handedOut, s.im.ian, s.streamEnded))
    = some ([2, 1], true, true) ∧ carriedBudget 3 false 1 = 2 := by decide
/-- only `s0`, `k0 = 0`, `PollNextN(3)`: all three roots (the bound `n` of `presignalled_bound`) -/
example : (run (exWide_H (.pollN 3) true) (initWith (exWide_H (.pollN 3) true) true false 0)
    [.schedPoll, .schedPoll, .schedPoll, .schedPoll]).map (fun s => (s.handedOut, s.im.ian))
    = some ([2, 1, 0], true) ∧ carriedBudget 3 false 0 = 3 := by decide
/-- a further signal during the run changes nothing; parking on `Pending` neither (chain 0 → 1 → 2,
    `r0`, `k0 = 1`, `PollNextN(4)`: budget 2) -/
example : (run (exChain_H (.pollN 4) true) (initWith (exChain_H (.pollN 4) true) false true 1)
    [.schedPoll, .schedPoll, .interrupt, .invoke 0, .finish 0 true, .queuerRecv, .schedPoll,
     .invoke 1, .finish 1 true, .queuerRecv, .schedPoll, .schedPoll]).map
      (fun s => (s.handedOut, s.readyQ, s.im.ian)) = some ([0, 1], [2], true) ∧
    carriedBudget 4 true 1 = 2 := by decide
/-- the theorem applied: a reachable state of that run and its bound -/
example : ∃ s, ReachableW (exWide_H (.pollN 3) true) false true 0 s ∧ s.handedOut = [2, 1] ∧
    s.handedOut.length ≤ 2 ∧ s.dropped = none := by
  obtain ⟨s, hr, hp⟩ := reachableW_of_any (c := exWide_H (.pollN 3) true) (s0 := false) (r0 := true)
    (k0 := 0) (as := [.schedPoll, .schedPoll, .schedPoll]) (p := fun s => s.handedOut == [2, 1]) (by decide)
  simp only [beq_iff_eq] at hp
  exact ⟨s, hr, hp, carried_pollN_bound_recv rfl hr, (carried_pollN_bound rfl (Or.inl rfl) hr).2.1⟩
/-- `FinishCurrent` / `PollNextN(0)` / exhausted count: the first poll answers `Interrupted(None)` -/
example : (run (exWide_H .finish true) (initWith (exWide_H .finish true) false true 0)
    [.schedPoll, .schedPoll, .schedEnd, .queuerEnd, .ret]).map (fun s => (s.handedOut, s.result))
    = some ([], some (.outcome false [] [0, 1, 2, 3] [])) := by decide
example : (run (exWide_H (.pollN 0) true) (initWith (exWide_H (.pollN 0) true) true false 0)
    [.schedPoll, .schedPoll]).map (fun s => (s.handedOut, s.streamEnded)) = some ([], true) := by decide
example : (run (exWide_H (.pollN 2) true) (initWith (exWide_H (.pollN 2) true) false true 1)
    [.schedPoll, .schedPoll]).map (fun s => (s.handedOut, s.streamEnded)) = some ([], true) := by decide
example : ∃ s, ReachableW (exWide_H .finish true) false true 0 s ∧ s.streamEnded = true ∧ s.handedOut = [] := by
  obtain ⟨s, hr, hp⟩ := reachableW_of_any (c := exWide_H .finish true) (s0 := false) (r0 := true)
    (k0 := 0) (as := [.schedPoll, .schedPoll]) (p := fun s => s.streamEnded) (by decide)
  exact ⟨s, hr, hp, (carried_finish_nothing (Or.inl rfl) (Or.inl rfl) hr).1⟩
example : ∃ s, ReachableW (exDia_T .finish) true false 0 s ∧
    s.result = some (.outcome false [] [0, 1, 2, 3] []) := by
  obtain ⟨s, hr, hp⟩ := reachableW_of_any (c := exDia_T .finish) (s0 := true) (r0 := false) (k0 := 0)
    (as := [.schedPoll, .schedPoll, .schedEnd, .queuerEnd, .ret]) (p := fun s => s.result.isSome) (by decide)
  obtain ⟨r, hres⟩ := Option.isSome_iff_exists.mp hp
  have := carried_finish_outcome (exDia_good_T _) (Or.inl rfl) (Or.inr rfl) hr hres
  exact ⟨s, hr, by rw [hres, this]; rfl⟩
/-- the hypothesis `r0 ∨ s0` is needed (a carried count alone does not stop `FinishCurrent`) -/
example : (run (exWide_H .finish true) (initWith (exWide_H .finish true) false false 3)
    [.schedPoll, .schedPoll]).map (·.handedOut) = some [2, 1] := by decide

/-- **C08** (carried state, `NonInterruptible` / `IgnoreInterruptions`): a schedule from the carried
    start and the same schedule WITHOUT its `interrupt` actions from the fresh start are both
    executable or both not, and the final states differ at most in `im` -/
theorem carried_noninterrupting (hst : c.strat = .non ∨ c.strat = .ignore) (s0 r0 : Bool) (k0 : Nat)
    (as : List Action) :
    (run c (initWith c s0 r0 k0) as).map clrIm =
      (run c (init c) (as.filter (· ≠ .interrupt))).map clrIm :=
  run_filter_interrupt hst as _ _ (RIm.initWith c s0 r0 k0)

/-- schedules without `interrupt` need no filtering: the carried start and the fresh start run in
    lock step -/
theorem carried_noninterrupting_same (hst : c.strat = .non ∨ c.strat = .ignore) (s0 r0 : Bool) (k0 : Nat)
    (as : List Action) (hni : ∀ a ∈ as, a ≠ .interrupt) :
    (run c (initWith c s0 r0 k0) as).map clrIm = (run c (init c) as).map clrIm := by
  have h := carried_noninterrupting hst s0 r0 k0 as
  have hf : as.filter (· ≠ .interrupt) = as := by
    apply List.filter_eq_self.mpr
    intro a ha; simpa using hni a ha
  rwa [hf] at h

/-- in particular the hand-outs (and every other field but `im`) are those of a fresh run -/
theorem carried_noninterrupting_handedOut (hst : c.strat = .non ∨ c.strat = .ignore)
    (hr : ReachableW c s0 r0 k0 s) :
    ∃ t, Reachable c t ∧ t.handedOut = s.handedOut ∧ t.invoked = s.invoked ∧ t.endedOk = s.endedOk ∧
      t.result = s.result := by
  obtain ⟨as, has⟩ := reachableFrom_iff_run.mp hr
  have h := carried_noninterrupting hst s0 r0 k0 as
  rw [has] at h
  cases ht : run c (init c) (as.filter (· ≠ .interrupt)) with
  | none => rw [ht] at h; cases h
  | some t =>
  have he : clrIm s = clrIm t := by rw [ht] at h; simpa using h
  have ht := Reachable.of_run .init ht
  exact ⟨t, ht, (congrArg PState.handedOut he).symm, (congrArg PState.invoked he).symm,
    (congrArg PState.endedOk he).symm, (congrArg PState.result he).symm⟩

/-- **C08**: with these strategies a signal never interrupts, carried or not -/
theorem noninterrupting_runW (hst : c.strat = .non ∨ c.strat = .ignore) (hr : ReachableW c s0 r0 k0 s) :
    s.im.sig = false ∧ s.im.ian = false ∧ s.dropped = none ∧ s.closeAfter = none :=
  hr.invariant (P := fun s => s.im.sig = false ∧ s.im.ian = false ∧ s.dropped = none ∧ s.closeAfter = none)
    (neverRaised_step hst) (by simp [initWith, init])

/-- non-vacuity: `IgnoreInterruptions` on the diamond with everything carried; the complete clean
    run returns `Finished` exactly as from `init`, only `im` differs -/
example : (run (exDia_T .ignore) (initWith (exDia_T .ignore) true true 7) exTFull_F).map
      (fun s => (s.result, s.im.recv, s.im.cnt)) =
      some (some (.outcome true [0, 2, 1, 3] [] []), true, 12) ∧
    (run (exDia_T .ignore) (init (exDia_T .ignore)) exTFull_F).map
      (fun s => (s.result, s.im.recv, s.im.cnt)) =
      some (some (.outcome true [0, 2, 1, 3] [] []), false, 0) := by decide
example : (run (exDia_T .ignore) (initWith (exDia_T .ignore) true true 7) exTFull_F).map clrIm =
    (run (exDia_T .ignore) (init (exDia_T .ignore)) exTFull_F).map clrIm :=
  carried_noninterrupting_same (Or.inr rfl) _ _ _ _ (by decide)
example : (run (exWide_H .non true) (initWith (exWide_H .non true) true true 2)
    [.schedPoll, .interrupt, .schedPoll, .schedPoll]).map (·.handedOut) = some [2, 1, 0] := by decide

/-- the initial state of `stream*_interruptible` handed a used `InterruptibilityState` -/
def sinitWith (c : Cfg) (s0 r0 : Bool) (k0 : Nat) : SState :=
  { sinit c with im := { sent := s0, recv := r0, cnt := k0 } }

theorem SState.setIm_eq (s : SState) {m : IM} (h : s.im = m) : ({ s with im := m } : SState) = s := by
  subst h; rfl

theorem sinitWith_fresh (c : Cfg) : sinitWith c false false 0 = sinit c := SState.setIm_eq (sinit c) rfl

inductive SReachableW (c : Cfg) (drain : Bool) (s0 r0 : Bool) (k0 : Nat) : SState → Prop
  | init : SReachableW c drain s0 r0 k0 (sinitWith c s0 r0 k0)
  | step {s s' : SState} (a : SAction) : SReachableW c drain s0 r0 k0 s → sstep? c drain s a = some s' →
      SReachableW c drain s0 r0 k0 s'

def srunW (c : Cfg) (drain : Bool) (s : SState) : List SAction → Option SState
  | [] => some s
  | a :: as => match sstep? c drain s a with
    | none => none
    | some s' => srunW c drain s' as

theorem sreachableW_of_srun {drain : Bool} {t t' : SState} {as : List SAction}
    (h0 : SReachableW c drain s0 r0 k0 t) (h : srunW c drain t as = some t') :
    SReachableW c drain s0 r0 k0 t' :=
  (IsRun.mk (run := srunW c drain) (fun _ => rfl)
    (fun s a _ => by rw [srunW]; cases sstep? c drain s a <;> rfl)).invariant
    (fun hr hs => .step _ hr hs) h0 h

theorem stream_carried_inv {n : Nat} {drain : Bool} {t : SState} (hst : c.strat.lim = some n)
    (h0 : r0 = true ∨ s0 = true) (hr : SReachableW c drain s0 r0 k0 t) :
    Within (IM.bud n) (max n 1) (carriedBudget n r0 k0) t.im true t.yielded.length := by
  induction hr with
  | init => exact within_sent h0 (Nat.le_of_eq (bud_carried n s0 r0 k0))
  | step a _ h ih =>
    exact (drives_stream c drain).ghost_sent (((potItem hst).mono Out.handsOut_isItem).ghost _) h ih

/-- **C08** (interruptible stream, carried state, `PollNextN(n)`): at most `carriedBudget n r0 k0`
    items are yielded -/
theorem stream_carried_pollN_bound {n : Nat} {drain : Bool} {t : SState} (hst : c.strat = .pollN n)
    (h0 : r0 = true ∨ s0 = true) (hr : SReachableW c drain s0 r0 k0 t) :
    t.yielded.length ≤ carriedBudget n r0 k0 :=
  (stream_carried_inv (n := n) (by rw [hst]; rfl) h0 hr).le

/-- **C08** (interruptible stream, carried state): `FinishCurrent` / `PollNextN(0)` yield nothing
    when the signal is pending or was received before the stream was created -/
theorem stream_carried_finish_nothing {drain : Bool} {t : SState}
    (hst : c.strat = .finish ∨ c.strat = .pollN 0) (h0 : r0 = true ∨ s0 = true)
    (hr : SReachableW c drain s0 r0 k0 t) : t.yielded = [] := by
  have h1 := (stream_carried_inv (n := 0) (Strat.lim_zero hst) h0 hr).le
  exact List.eq_nil_of_length_eq_zero (Nat.le_zero.mp (carriedBudget_zero r0 k0 ▸ h1))

/-- non-vacuity / exactness for the stream (wide graph; the consumer polls four times) -/
example : (srunW (exWide_H (.pollN 3) true) true (sinitWith (exWide_H (.pollN 3) true) false true 0)
    [.poll, .poll, .poll, .poll]).map (fun t => (t.yielded, t.im.ian)) = some ([2, 1], true) ∧
    carriedBudget 3 true 0 = 2 := by decide
example : (srunW (exWide_H (.pollN 3) true) true (sinitWith (exWide_H (.pollN 3) true) true false 1)
    [.poll, .interrupt, .poll, .poll, .poll]).map (fun t => (t.yielded, t.im.ian)) = some ([2, 1], true) ∧
    carriedBudget 3 false 1 = 2 := by decide
example : (srunW (exWide_H .finish true) true (sinitWith (exWide_H .finish true) false true 5)
    [.poll, .poll]).map (fun t => (t.yielded, t.im.ian)) = some ([], true) := by decide
example (t : SState) (h : srunW (exWide_H (.pollN 3) true) true
    (sinitWith (exWide_H (.pollN 3) true) false true 0) [.poll, .poll, .poll, .poll] = some t) :
    t.yielded.length ≤ 2 :=
  stream_carried_pollN_bound (n := 3) rfl (Or.inl rfl) (sreachableW_of_srun .init h)

end FG
