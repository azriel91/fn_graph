/-
  Theorems/RunSafety.lean — property theorems about the run protocol that are safety
  properties: they hold in EVERY reachable state of `Proto`, i.e. for every graph (`GoodCfg`),
  every completion order, every poll order, every limit, every interrupt timing, every failing
  subset.  (C01 run half, C02, C03 at-most-once, C07, C09, C10; no panic for C04.)

  All theorems are static consequences of the invariant: of `Inv0` (inductive under `GoodCfg`
  alone) where that suffices, of `Inv` (needs `Cfg.ApiOk`: `shortCircuit` ⇒ `sequential`) for
  `return_no_inflight` and `shortCircuit_first_error`, which fail without it
  (`return_no_inflight_original_false`, `shortCircuit_first_error_original_false`).
-/
import FnGraphVerif.Proofs.ProtoSafety
namespace FG

variable {c : Cfg} {s : PState}

/-- everything up to the hand-out of the sink 3 -/
def exT1_F : List Action :=
  [.schedPoll, .invoke 0, .finish 0 true, .queuerRecv, .schedPoll, .schedPoll, .invoke 2, .invoke 1,
   .finish 2 true, .finish 1 true, .queuerRecv, .queuerRecv, .schedPoll]
/-- a complete clean run -/
def exTFull_F : List Action :=
  exT1_F ++ [.invoke 3, .finish 3 true, .queuerRecv, .schedPoll, .schedEnd, .queuerEnd, .ret]

/-- **C02** (and the core of C01): whatever has been queued, handed out or swallowed has all its
    ancestors in the scheduling graph returned successfully. -/
theorem handout_after_ancestors (hc : GoodCfg c) (hr : Reachable c s) {u v : Nat}
    (hv : v ∈ s.readyQ ∨ v ∈ s.handedOut ∨ s.dropped = some v) (huv : ReachP c.D u v) :
    u ∈ s.endedOk :=
  (inv0_reachable hc hr).ancestors_ended hv huv

/-- non-vacuity: in the diamond the sink 3 is handed out in a reachable state, and the theorem
    yields that its ancestor 0 has ended -/
example : ∃ s, Reachable exCfg_F s ∧ 3 ∈ s.handedOut ∧ 0 ∈ s.endedOk := by
  obtain ⟨s, hr, hp⟩ := reachable_of_any (c := exCfg_F) (as := exT1_F)
    (p := fun s => decide (3 ∈ s.handedOut)) (by decide)
  have h3 : 3 ∈ s.handedOut := of_decide_eq_true hp
  exact ⟨s, hr, h3, handout_after_ancestors exGood_F hr (Or.inr (Or.inl h3)) ex_reach03⟩

theorem Inv0.done_ended (hinv : Inv0 c s) {x : Nat}
    (hx : x ∈ s.released ∨ x ∈ s.doneQ) : x ∈ s.endedOk ∧ x ∉ s.inflight :=
  ⟨hinv.doneEnded x hx, fun hi => (hinv.inflNotEnded x hi).1 (hinv.doneEnded x hx)⟩

/-- **C02**: a done id is only ever sent for a function that returned successfully. -/
theorem done_only_after_end (hc : GoodCfg c) (hr : Reachable c s) {x : Nat}
    (hx : x ∈ s.released ∨ x ∈ s.doneQ) : x ∈ s.endedOk ∧ x ∉ s.inflight :=
  (inv0_reachable hc hr).done_ended hx

example : ∃ s, Reachable exCfg_F s ∧ 0 ∈ s.doneQ ∧ 0 ∈ s.endedOk ∧ 0 ∉ s.inflight := by
  obtain ⟨s, hr, hp⟩ := reachable_of_any (c := exCfg_F) (as := exT1_F.take 3)
    (p := fun s => decide (0 ∈ s.doneQ)) (by decide)
  have h0 : 0 ∈ s.doneQ := of_decide_eq_true hp
  exact ⟨s, hr, h0, done_only_after_end exGood_F hr (Or.inr h0)⟩

theorem Inv0.no_ancestor_inflight (hinv : Inv0 c s) {u v : Nat}
    (hu : u ∈ s.inflight) (hv : v ∈ s.inflight) : ¬ ReachP c.D u v := fun huv =>
  (hinv.inflNotEnded u hu).1 (hinv.ancestors_ended (Or.inr (Or.inl (hinv.inflHanded v hv))) huv)

/-- **C01** (run half): two functions ordered by the scheduling graph are never in flight together. -/
theorem no_ancestor_inflight (hc : GoodCfg c) (hr : Reachable c s) {u v : Nat}
    (hu : u ∈ s.inflight) (hv : v ∈ s.inflight) : ¬ ReachP c.D u v :=
  (inv0_reachable hc hr).no_ancestor_inflight hu hv

theorem exMiddleInflight_F : ∃ s, Reachable exCfg_F s ∧ 2 ∈ s.inflight ∧ 1 ∈ s.inflight := by
  obtain ⟨s, hr, hp⟩ := reachable_of_any (c := exCfg_F) (as := exT1_F.take 6)
    (p := fun s => decide (2 ∈ s.inflight) && decide (1 ∈ s.inflight)) (by decide)
  simp only [Bool.and_eq_true, decide_eq_true_eq] at hp
  exact ⟨s, hr, hp.1, hp.2⟩

/-- non-vacuity: the two middle functions of the diamond ARE in flight together -/
example : ∃ s, Reachable exCfg_F s ∧ 2 ∈ s.inflight ∧ 1 ∈ s.inflight ∧ ¬ ReachP exCfg_F.D 2 1 := by
  obtain ⟨s, hr, h2, h1⟩ := exMiddleInflight_F
  exact ⟨s, hr, h2, h1, no_ancestor_inflight exGood_F hr h2 h1⟩

/-- **C01**: if the scheduling graph orders every conflicting pair (what `build` guarantees, C11),
    no two conflicting functions are in flight together. -/
theorem no_conflict_inflight (hc : GoodCfg c) (hr : Reachable c s) (decls : List FnDecl)
    (hord : ∀ u v, u < c.n → v < c.n → u ≠ v → conflict (declOf decls u) (declOf decls v) = true →
      ReachP c.D u v ∨ ReachP c.D v u)
    {u v : Nat} (hu : u ∈ s.inflight) (hv : v ∈ s.inflight) (hne : u ≠ v) :
    conflict (declOf decls u) (declOf decls v) = false := by
  have hinv := inv0_reachable hc hr
  cases hcf : conflict (declOf decls u) (declOf decls v) with
  | false => rfl
  | true =>
    rcases hord u v (hinv.handed_lt (hinv.inflHanded u hu)) (hinv.handed_lt (hinv.inflHanded v hv)) hne hcf
      with h | h
    · exact (hinv.no_ancestor_inflight hu hv h).elim
    · exact (hinv.no_ancestor_inflight hv hu h).elim

/-- non-vacuity: the hypothesis holds for the diamond with real conflicts (0–1, 0–2, 0–3, 1–3, 2–3),
    and the readers 1 and 2 are in flight together -/
example : ∃ s, Reachable exCfg_F s ∧ 2 ∈ s.inflight ∧ 1 ∈ s.inflight ∧
    conflict (declOf exDecls_F 2) (declOf exDecls_F 1) = false := by
  obtain ⟨s, hr, h2, h1⟩ := exMiddleInflight_F
  exact ⟨s, hr, h2, h1, no_conflict_inflight exGood_F hr exDecls_F exDecls_ordered_F h2 h1 (by decide)⟩

/-- **C03**: nothing is queued or handed out twice. -/
theorem handout_nodup (hc : GoodCfg c) (hr : Reachable c s) :
    (s.readyQ ++ s.handedOut ++ s.dropped.toList).Nodup :=
  (inv0_reachable hc hr).queueNodup

/-- **C03**: the closure is invoked at most once per function, and only for handed-out functions. -/
theorem invoked_nodup (hc : GoodCfg c) (hr : Reachable c s) :
    s.invoked.Nodup ∧ ∀ f ∈ s.invoked, f ∈ s.handedOut :=
  ⟨(inv0_reachable hc hr).invNodup, (inv0_reachable hc hr).invHanded⟩

/-- **C03 / C04**: no `expect`, `usize` underflow, `try_write` failure, full channel. -/
theorem no_panic (hc : GoodCfg c) (hr : Reachable c s) : s.panic = false :=
  hr.noPanic hc

/-- **C03**: the ready and done channels never fill (capacity `max(1, n)` suffices). -/
theorem channels_never_full (hc : GoodCfg c) (hr : Reachable c s) :
    s.readyQ.length ≤ c.cap ∧ s.doneQ.length ≤ c.cap ∧ s.errors.length ≤ c.cap := by
  have hinv := inv0_reachable hc hr
  have hcap := c.n_le_cap
  have h1 := hinv.queue_len
  have h2 := hinv.rel_len
  refine ⟨by omega, by omega, ?_⟩
  rw [hinv.errs]
  split
  · have := nodup_bounded_length hinv.failed_nodup (n := c.n)
      (fun x hx => hinv.ended_lt (List.mem_append.mpr (Or.inr hx)))
    omega
  · simp

/-- non-vacuity: a reachable state of the diamond in which all four functions were handed out and
    three invoked; the four theorems above apply to it -/
example : ∃ s, Reachable exCfg_F s ∧ s.handedOut = [0, 2, 1, 3] ∧ s.invoked = [0, 2, 1] ∧
    (s.readyQ ++ s.handedOut ++ s.dropped.toList).Nodup ∧ s.invoked.Nodup ∧ s.panic = false ∧
    s.readyQ.length ≤ 4 := by
  obtain ⟨s, hr, hp⟩ := reachable_of_any (c := exCfg_F) (as := exT1_F)
    (p := fun s => s.handedOut == [0, 2, 1, 3] && s.invoked == [0, 2, 1]) (by decide)
  simp only [Bool.and_eq_true, beq_iff_eq] at hp
  exact ⟨s, hr, hp.1, hp.2, handout_nodup exGood_F hr, (invoked_nodup exGood_F hr).1, no_panic exGood_F hr,
    (channels_never_full exGood_F hr).1⟩

/-- **C10**: at most `limit` functions in flight (`fold*`: at most one). -/
theorem inflight_le_limit (hc : GoodCfg c) (hr : Reachable c s) :
    (c.sequential = true → s.inflight.length ≤ 1) ∧
    (c.sequential = false → ∀ l, c.limit = some (l + 1) → s.inflight.length ≤ l + 1) :=
  ⟨(inv0_reachable hc hr).limSeq, (inv0_reachable hc hr).limPar⟩

/-- non-vacuity: with `limit = 1` the diamond reaches a state where 1 is ready, 2 in flight, and the
    scheduler may not poll (a further `schedPoll` is disabled) -/
example : ∃ s, Reachable exLim1_F s ∧ s.readyQ = [1] ∧ s.inflight = [2] ∧ s.inflight.length ≤ 1 ∧
    step? exLim1_F s .schedPoll = none := by
  obtain ⟨s, hr, hp⟩ := reachable_of_any (c := exLim1_F) (as := exT1_F.take 5)
    (p := fun s => s.readyQ == [1] && s.inflight == [2] && (step? exLim1_F s .schedPoll).isNone) (by decide)
  simp only [Bool.and_eq_true, beq_iff_eq, Option.isNone_iff_eq_none] at hp
  exact ⟨s, hr, hp.1.1, hp.1.2, (inflight_le_limit exLim1_good_F hr).2 rfl 0 rfl, hp.2⟩

/-- **C07**: one error per failed function, none lost, none duplicated. -/
theorem errors_exact (hc : GoodCfg c) (hr : Reachable c s) (hm : c.errMode = .collect) :
    s.errors = s.failed ∧ s.failed.Nodup := by
  have hinv := inv0_reachable hc hr
  refine ⟨?_, hinv.failed_nodup⟩
  have := hinv.errs
  rwa [if_pos hm] at this

/-- **C07**: nothing ordered after a failed function is ever queued or handed out. -/
theorem no_successor_of_failed (hc : GoodCfg c) (hr : Reachable c s) {f v : Nat}
    (hf : f ∈ s.failed) (hfv : ReachP c.D f v) : v ∉ s.handedOut ∧ v ∉ s.readyQ :=
  (inv0_reachable hc hr).no_successor_of_failed hf hfv

/-- non-vacuity: the root of the diamond fails in `collect` mode -/
example : ∃ s, Reachable exCollect_F s ∧ s.failed = [0] ∧ s.errors = s.failed ∧ 3 ∉ s.handedOut := by
  obtain ⟨s, hr, hp⟩ := reachable_of_any (c := exCollect_F) (as := [.schedPoll, .invoke 0, .finish 0 false])
    (p := fun s => s.failed == [0]) (by decide)
  simp only [beq_iff_eq] at hp
  exact ⟨s, hr, hp, (errors_exact exCollect_good_F hr rfl).1,
    (no_successor_of_failed exCollect_good_F hr (by rw [hp]; simp) ex_reach03).1⟩

theorem Inv0.outcome_no_inflight (hinv : Inv0 c s) {fin : Bool} {p np errs : List Nat}
    (h : s.result = some (.outcome fin p np errs)) : s.inflight = [] := by
  obtain ⟨h1, _, _, h4⟩ := hinv.ret0 _ h
  exact hinv.sDoneInfl0 h1 (h4 _ _ _ _ rfl)

/-- **C04 / C07**: when the call has returned nothing is in flight.  Needs `ApiOk`
    (`shortCircuit` ⇒ `sequential`, true of every real API). -/
theorem return_no_inflight (hc : GoodCfg c) (hapi : c.ApiOk) (hr : Reachable c s)
    (h : s.result.isSome = true) : s.inflight = [] :=
  (inv_reachable hc hapi hr).return_no_inflight h

/-- without `ApiOk` it fails: `cxCfg_F` (short-circuiting, not sequential) returns `Err 1` while
    function 0 is in flight -/
theorem return_no_inflight_original_false :
    ¬ (∀ (c : Cfg) (s : PState), GoodCfg c → Reachable c s → s.result.isSome = true → s.inflight = []) := by
  intro h
  obtain ⟨s, hr, _, hres, hi⟩ := cx_reachable
  have := h cxCfg_F s cxCfg_good_F hr (by rw [hres]; rfl)
  rw [hi] at this; cases this

/-- without `ApiOk` the weaker fact still holds: a call that returned an OUTCOME (not a
    short-circuit error) has nothing in flight -/
theorem return_no_inflight_partial (hc : GoodCfg c) (hr : Reachable c s) {fin : Bool} {p np errs : List Nat}
    (h : s.result = some (.outcome fin p np errs)) : s.inflight = [] :=
  (inv0_reachable hc hr).outcome_no_inflight h

/-- non-vacuity: the complete clean run of the diamond returns -/
example : ∃ s, Reachable exCfg_F s ∧ s.result.isSome = true ∧ s.inflight = [] := by
  obtain ⟨s, hr, hp⟩ := reachable_of_any (c := exCfg_F) (as := exTFull_F)
    (p := fun s => s.result.isSome) (by decide)
  exact ⟨s, hr, hp, return_no_inflight exGood_F (by unfold Cfg.ApiOk; decide) hr hp⟩

/-- **C07**: `try_fold_async*` returns the first error, and no function is handed out after it
    (the scheduler is finished, so `schedPoll` is disabled for good).  Needs `ApiOk`. -/
theorem shortCircuit_first_error (hc : GoodCfg c) (hapi : c.ApiOk) (hr : Reachable c s) {f : Nat}
    (hf : s.shortErr = some f) :
    c.errMode = .shortCircuit ∧ s.failed = [f] ∧ s.sDone = true ∧ step? c s .schedPoll = none ∧
    (∀ r, s.result = some r → r = .err f) :=
  (inv_reachable hc hapi hr).shortCircuit_first_error hf

/-- without `ApiOk` it fails: in `cxCfg_F` the second in-flight function fails after the
    call returned `Err 1`; then `shortErr = some 0` but two functions failed and `Err 1` was returned -/
theorem shortCircuit_first_error_original_false :
    ¬ (∀ (c : Cfg) (s : PState) (f : Nat), GoodCfg c → Reachable c s → s.shortErr = some f →
        c.errMode = .shortCircuit ∧ s.failed = [f] ∧ s.sDone = true ∧ step? c s .schedPoll = none ∧
        (∀ r, s.result = some r → r = .err f)) := by
  intro h
  obtain ⟨s, hr, hp⟩ := reachable_of_any (c := cxCfg_F) (as := cxTrace_F ++ [.finish 0 false])
    (p := fun s => s.shortErr == some 0 && s.failed == [1, 0]) (by decide)
  simp only [Bool.and_eq_true, beq_iff_eq] at hp
  have := (h cxCfg_F s 0 cxCfg_good_F hr hp.1).2.1
  rw [hp.2] at this; cases this

/-- without `ApiOk` this much remains: a short-circuit error only occurs in `shortCircuit` mode and
    finishes the scheduler for good -/
theorem shortCircuit_first_error_partial (hc : GoodCfg c) (hr : Reachable c s) {f : Nat}
    (hf : s.shortErr = some f) :
    c.errMode = .shortCircuit ∧ s.sDone = true ∧ step? c s .schedPoll = none :=
  (inv0_reachable hc hr).shortErr_some hf

/-- non-vacuity: `try_fold` on the diamond, the root fails, the call returns `Err 0` -/
example : ∃ s, Reachable exShort_F s ∧ s.shortErr = some 0 ∧ s.result = some (.err 0) ∧ s.failed = [0] := by
  obtain ⟨s, hr, hp⟩ := reachable_of_any (c := exShort_F)
    (as := [.schedPoll, .invoke 0, .finish 0 false, .queuerEnd, .ret])
    (p := fun s => s.shortErr == some 0 && s.result == some (.err 0)) (by decide)
  simp only [Bool.and_eq_true, beq_iff_eq] at hp
  exact ⟨s, hr, hp.1, hp.2,
    (shortCircuit_first_error exShort_good_F (fun _ => rfl) hr hp.1).2.1⟩

/-- with nothing in flight the hand-outs are exactly the ended functions, which the scheduler's
    `fns_remaining` counts down -/
theorem Inv0.sRemaining_add_handedOut (hinv : Inv0 c s) (hi : s.inflight = []) (hse : s.shortErr = none) :
    s.sRemaining + s.handedOut.length = c.n := by
  have hperm : s.handedOut.Perm (s.endedOk ++ s.failed) := by
    rw [List.perm_ext_iff_of_nodup hinv.handedOut_nodup hinv.endNodup]
    intro f
    rw [List.mem_append]
    exact ⟨fun hf => (hinv.handedSplit f hf).resolve_left (hi ▸ List.not_mem_nil), hinv.endedHanded f⟩
  have h1 := hperm.length_eq
  have h2 := hinv.sRem
  rw [List.length_append] at h1
  split at h2
  · omega
  · rw [hinv.failed_nil ‹_› hse] at h1; simp only [List.length_nil] at h1; omega

theorem Inv0.handedOut_perm_range_iff (hinv : Inv0 c s) :
    s.handedOut.Perm (List.range c.n) ↔ s.handedOut.length = c.n := by
  constructor
  · intro hp; simpa using hp.length_eq
  · intro hl
    have hsub : s.handedOut ⊆ List.range c.n := fun x hx => List.mem_range.mpr (hinv.handed_lt hx)
    exact (List.Nodup.subperm hinv.handedOut_nodup hsub).perm_of_length_le
      (by simp only [List.length_range]; omega)

theorem Inv0.outcome_exact (hinv : Inv0 c s) {fin : Bool} {p np errs : List Nat}
    (h : s.result = some (.outcome fin p np errs)) :
    p = s.handedOut ∧ np = (List.range c.n).filter (fun v => decide (v ∉ s.handedOut)) ∧
    errs = s.errors ∧ (fin = true ↔ s.handedOut.Perm (List.range c.n)) ∧
    (∀ f ∈ s.handedOut, f ∈ s.invoked) := by
  obtain ⟨hsd, _, h3, h4⟩ := hinv.ret0 _ h
  have hse : s.shortErr = none := h4 _ _ _ _ rfl
  have hinfl : s.inflight = [] := hinv.sDoneInfl0 hsd hse
  obtain ⟨hfin, hp, hnp, herr⟩ := Ret.outcome.inj ((h3 hse).trans (mkRet_noShort hse))
  have hlen := hinv.sRemaining_add_handedOut hinfl hse
  refine ⟨hp, hnp, herr, ?_, fun f hf => (hinv.invoked_perm_handedOut hinfl).mem_iff.mpr hf⟩
  rw [hfin, beq_iff_eq, hinv.handedOut_perm_range_iff]
  omega

/-- **C09**: the returned outcome lists exactly the hand-outs in hand-out order, the complement in
    insertion order, `Finished` iff everything was handed out; every handed-out function was invoked.
    (`hapi` is not used: the argument convention of the other `ApiOk` theorems; the form without it
    is `Inv0.outcome_exact`.) -/
theorem outcome_exact (hc : GoodCfg c) (_hapi : c.ApiOk) (hr : Reachable c s) {fin : Bool} {p np errs : List Nat}
    (h : s.result = some (.outcome fin p np errs)) :
    p = s.handedOut ∧ np = (List.range c.n).filter (fun v => decide (v ∉ s.handedOut)) ∧
    errs = s.errors ∧ (fin = true ↔ s.handedOut.Perm (List.range c.n)) ∧
    (∀ f ∈ s.handedOut, f ∈ s.invoked) :=
  (inv0_reachable hc hr).outcome_exact h

/-- non-vacuity: the clean run of the diamond returns `Finished` with hand-out order `[0,2,1,3]` -/
example : ∃ s, Reachable exCfg_F s ∧ s.result = some (.outcome true [0, 2, 1, 3] [] []) ∧
    s.handedOut = [0, 2, 1, 3] ∧ s.handedOut.Perm (List.range 4) := by
  obtain ⟨s, hr, hp⟩ := reachable_of_any (c := exCfg_F) (as := exTFull_F)
    (p := fun s => s.result == some (.outcome true [0, 2, 1, 3] [] [])) (by decide)
  simp only [beq_iff_eq] at hp
  obtain ⟨h1, _, _, h4, _⟩ := (inv0_reachable exGood_F hr).outcome_exact hp
  exact ⟨s, hr, hp, h1.symm, h4.mp rfl⟩

/-- **C09** (control variants): `Continue` iff `Finished` and nothing broke. -/
theorem control_continue_iff (fin : Bool) (p np errs : List Nat) :
    (Ret.outcome fin p np errs).isBreak = false ↔ (fin = true ∧ errs = []) := by
  cases fin <;> cases errs <;> simp [Ret.isBreak]

example : (Ret.outcome true [0, 2, 1, 3] [] []).isBreak = false ∧
    (Ret.outcome false [0] [1, 2, 3] []).isBreak = true ∧ (Ret.outcome true [0] [] [0]).isBreak = true := by
  decide

end FG
